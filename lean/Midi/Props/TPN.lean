/-
Property theorems restated for the code AS TRANSLATED from the Rust source by tools/rs2lean.py:
parameter_number_message_scanner.rs (Midi/Gen/PNScan) — regenerated from /repo's working tree on every run.
Each theorem follows from the theorem about the hand-written model and the proved equivalence of the translated code
with that model (Midi/Proofs/Gen*.lean), so a change to the source file that alters behaviour breaks these theorems
even where no test input exposes it.
-/
import Midi.Proofs.GenPN
import Midi.Props.C10
import Midi.Props.C11
import Midi.Props.C15
import Midi.Props.C16
import Midi.Props.C17

namespace Midi.Props.TPN
open Midi Midi.Spec Midi.Gen Midi.GenTie Midi.GenTie.PN

abbrev Scanner := PNScan.ParameterNumberMessageScanner

theorem new_is_default : PNScan.ParameterNumberMessageScanner.new = .ok default := rfl

/-- C11 for the translated scanner -/
theorem exact (past : List Op) (hp : ∀ op ∈ past, op.Valid) (m : Bytes) (hm : m.Valid) :
    ∃ s s', grun default past = .ok (expectedPN [] past, s) ∧
      s.feed rawImpl m = .ok (justifiedPN past m, s') := by
  obtain ⟨s, s', h1, h2⟩ := C11.exact past hp m hm
  exact ⟨_, _, grun_default h1, feed_of_model h2⟩

/-- C11, data independence, for the translated scanner: relabelling the value bytes of every Control Change of the
    history and of the input by any `f` (into 0..127) sends the reported message through `relabelMsg f`. -/
theorem data_independent (f : Nat → Nat) (hf : ∀ v, v < 128 → f v < 128)
    (past : List Op) (hp : ∀ op ∈ past, op.Valid) (m : Bytes) (hm : m.Valid) :
    ∃ s s', grun default (past.map (relabelOp f)) = .ok (expectedPN [] (past.map (relabelOp f)), s) ∧
      s.feed rawImpl (relabelB f m) = .ok ((justifiedPN past m).map (relabelMsg f), s') := by
  rw [← C11.data_independent f past hp m hm]
  exact exact _ (relabel_valid f hf past hp) _ (relabelB_valid f hf m hm)

/-- C10 for the translated scanner: after ANY history, feeding the encoding of any message the scanner can
    reconstruct reports nothing until the last Control Change and exactly the original message on it -/
theorem roundtrip (past : List Op) (hp : ∀ op ∈ past, op.Valid) (m : PNMsg) (hm : m.Valid) (order : ByteOrder)
    (ho : m.is14Bit = true → order = .lsbFirst) :
    ∃ s s' outs, grun default past = .ok (outs, s) ∧
      grun s ((C10.encoded m order).map .feed) =
        .ok (List.replicate ((C10.encoded m order).length - 1) none ++ [some m], s') := by
  obtain ⟨s, outs, h, wf⟩ := C10.reachable_wf past hp
  obtain ⟨s', h', _⟩ := C10.roundtrip s wf m hm order ho
  exact ⟨_, _, outs, grun_default h, grun_of_model h'⟩

theorem transparent (s : Scanner) (b : Bytes) (hv : b.Valid) (hn : ¬ C16.contributesPN b) :
    s.feed rawImpl b = .ok (none, s) := by
  rw [feed, C16.transparent_pn _ b hv hn]; simp [back]

theorem reset_is_new (s : Scanner) : s.reset = .ok ((), default) := by
  rw [reset, C17.reset_eq_new_pn, default_eq]

theorem isolation (c : Nat) (hc : c < 16) (ops : List Op) (hv : ∀ op ∈ ops, op.Valid) :
    ∃ s s' o o', grun default ops = .ok (o, s) ∧ grun default (ops.filter (opOnChannel c)) = .ok (o', s') ∧
      outsOn c ops o = o' := by
  obtain ⟨s, s', h1, h2, h3⟩ := C15.isolation_pn c hc ops hv
  exact ⟨_, _, _, _, grun_default h1, grun_default h2, h3⟩

end Midi.Props.TPN
