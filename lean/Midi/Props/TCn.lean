/-
Property theorems restated for the code AS TRANSLATED from the Rust source by tools/rs2lean.py:
the inherent methods of ControllerNumber (controller_number_mod.rs -> Midi/Gen/CnPredicates) and of the classification
enums (short_message.rs -> Midi/Gen/ShortMsg) — regenerated from /repo's working tree on every run.
-/
import Midi.Proofs.GenCn
import Midi.Proofs.GenShort
import Midi.Props.C02
import Midi.Props.C16

namespace Midi.Props.TCn
open Midi Midi.Spec Midi.Gen Midi.GenTie
open Midi.Gen.CnPredicates

/-- C16 for the translated predicates, for every controller number 0–127: `can_be_part_of_14_bit..` holds exactly for
    0–63, the LSB sibling is n + 32 exactly for 0–31 (and never overflows), `is_parameter_number..` holds exactly for
    {6, 38, 96–101} -/
theorem predicates (n : Nat) (hn : n < 128) :
    ControllerNumber.can_be_part_of_14_bit_control_change_message n = .ok (decide (n < 64)) ∧
    ControllerNumber.corresponding_14_bit_lsb_controller_number n = .ok (if n < 32 then some (n + 32) else none) ∧
    ControllerNumber.is_parameter_number_message_controller_number n =
      .ok (decide (n ∈ [6, 38, 96, 97, 98, 99, 100, 101])) := by
  have h := C16.predicates ⟨n, hn⟩
  refine ⟨CN.can_be_part n, ?_, ?_⟩
  · rw [CN.lsb_of, h.2.1]
  · rw [CN.is_parameter_number, Bool.eq_iff_iff.mpr (h.2.2.trans decide_eq_true_iff.symm)]

/-- C02 for the translated predicate: a Control Change is Channel Mode exactly for controller numbers 120–127 -/
theorem channel_mode (n : Nat) : ControllerNumber.is_channel_mode_message_controller_number n = .ok (decide (n ≥ 120)) := by
  rw [CN.is_channel_mode]
  rfl

/-- C02 for the translated classification of message types (type-level super type and main category): total, never
    panics, and the coarse super type refines to the main category the same way the fine one does -/
theorem type_level (t : MsgType) :
    ShortMsg.ShortMessageType.super_type t = .ok t.superType ∧
    ShortMsg.FuzzyMessageSuperType.main_category t.superType = .ok t.superType.mainCategory ∧
    (∀ s : SuperType, ShortMsg.MessageSuperType.main_category s = .ok s.mainCategory) :=
  ⟨EN.type_super_type t, EN.fuzzy_main_category _, EN.super_main_category⟩

end Midi.Props.TCn
