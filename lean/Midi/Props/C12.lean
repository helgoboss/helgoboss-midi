/-
C12  Polling (N)RPN scanner decodes every documented sequence form.
Grammar, intended meaning and schedules: Midi/Spec/Grammar.lean.  Per channel (`sentences`), then for the whole scanner
under any interleaving of the 16 channels (`sentences_scanner`, by `p_run_new_channel`).
-/
import Midi.Proofs.Polling
import Midi.Spec.Grammar
import Midi.Proofs.Sentences
set_option linter.unusedVariables false
namespace Midi.Props.C12
open Midi Midi.Spec

/-- a channel state whose stored bytes are 7-bit values (every state reachable by valid messages is) -/
def ChanWF (c : PChan) : Prop :=
  match c.state with
  | .waitingForNumber first _ _ => ∀ v, first = some v → v < 128
  | .waitingForFirstValue ns => ns.msb < 128 ∧ ns.lsb < 128
  | .valuePending ns _ f _ => ns.msb < 128 ∧ ns.lsb < 128 ∧ f < 128
  | .fourteenComplete ns a b => ns.msb < 128 ∧ ns.lsb < 128 ∧ a < 128 ∧ b < 128

theorem chanWF_iff (c : PChan) : ChanWF c ↔ c.state.Bytes7 := Iff.rfl

/-- time of the last message of a schedule -/
def lastTime (sched : List Timed) : Nat := (sched.getLast?.map (·.now)).getD 0

/-- From ANY well-formed prior state, for every non-empty sentence of the documented
    grammar on a channel and every good schedule of it (arbitrary gaps with polls — early inside two-message units,
    unrestricted elsewhere — and non-contributing traffic; monotone time), followed by one poll at least `timeout`
    after the last message, the messages reported by feed and poll together are exactly: what was still owed from
    before, then the intended messages, each once and in order. -/
theorem sentences (ch timeout t tEnd : Nat) (c0 : PChan) (hto : c0.timeout = timeout) (hwf : ChanWF c0)
    (bs : List Block) (hne : bs ≠ []) (hb : ∀ b ∈ bs, b.Valid) (sched : List Timed) (hg : Good timeout t bs sched)
    (hend : lastTime sched + timeout ≤ tEnd) :
    reports (c0.evs ch (schedEvents sched ++ [.poll tEnd])).2 = flush ch c0 ++ intended ch bs := by
  obtain ⟨⟨hmap, hidx⟩, _, hgaps⟩ := hg
  exact Sent.sentence_run ch timeout tEnd c0 hto bs hne hb sched hmap (Sent.chainTail_of_index sched hidx) hgaps
    (by rw [Sent.endTime_eq]; exact hend)

/-- Consequently: encoding any ParameterNumberMessage in either byte order, feeding it (at any non-decreasing times)
    and polling after the timeout reports exactly that message, preceded at most by the flush of a value still
    pending from earlier traffic — whatever the scanner was fed before. -/
theorem encode_roundtrip (timeout tEnd : Nat) (c0 : PChan) (hto : c0.timeout = timeout) (hwf : ChanWF c0)
    (m : PNMsg) (hm : m.Valid) (order : ByteOrder) (times : List Nat)
    (hlen : times.length = ((specPNEncoding m order).filterMap id).length)
    (hmono : times.Pairwise (· ≤ ·)) (hend : ∀ t ∈ times, t + timeout ≤ tEnd) :
    reports (c0.evs m.channel
      ((((specPNEncoding m order).filterMap id).zip times).map (fun p => PEv.cc p.1.d1 p.1.d2 p.2) ++ [.poll tEnd])).2
      = flush m.channel c0 ++ [m] := by
  have ev : ((((specPNEncoding m order).filterMap id).zip times).map (fun p => PEv.cc p.1.d1 p.1.d2 p.2)) =
      (([Sent.blockOf m order].flatMap Block.shape).zip times).map (fun p => PEv.cc p.1.1 p.1.2.1 p.2) := by
    have := congrArg (fun l => (l.zip times).map fun p => PEv.cc p.1.1 p.1.2 p.2) (Sent.blockOf_shape m order)
    simpa only [List.zip_map_left, List.map_map, Function.comp_def, Prod.map_fst, Prod.map_snd, id,
      List.flatMap_cons, List.flatMap_nil, List.append_nil] using this
  rw [ev, Sent.plain_run m.channel timeout tEnd c0 hto [Sent.blockOf m order] (by simp)
    (fun b hb => by rw [List.mem_singleton.mp hb]; exact Sent.blockOf_valid m hm order) times
    (by rw [hlen, ← List.length_map (f := fun b : Bytes => (b.d1, b.d2)), Sent.blockOf_shape]; simp) hend]
  simp [intended, Sent.blockOf_intended m hm order]

/-- C12 for the WHOLE scanner: take ANY interleaved history of valid feeds on all 16 channels, polls, resets and time
    steps on a scanner created with `new(timeout)`, in which channel `c` sees exactly a good schedule of a non-empty
    sentence of the documented grammar followed by one poll after the timeout (what the other 15 channels see is
    arbitrary).  Then the scanner never panics and the messages `feed` and `poll` report for channel `c` are exactly
    the intended ones, each once and in order. -/
theorem sentences_scanner (c : Nat) (hc : c < 16) (now timeout t tEnd : Nat) (ops : List TOp) (hv : ∀ op ∈ ops, op.Valid)
    (bs : List Block) (hne : bs ≠ []) (hb : ∀ b ∈ bs, b.Valid) (sched : List Timed) (hg : Good timeout t bs sched)
    (hend : lastTime sched + timeout ≤ tEnd)
    (hview : project c now ops = schedEvents sched ++ [.poll tEnd]) :
    ∃ n s outs, pRun now (PScanner.new timeout) ops = .ok ((n, s), outs) ∧
      reports (outputsOn c now ops outs) = intended c bs := by
  obtain ⟨n, s, outs, h, _, ho⟩ := p_run_new_channel c hc now timeout ops hv
  refine ⟨n, s, outs, h, ?_⟩
  rw [ho, hview]
  have := sentences c timeout t tEnd { timeout := timeout } rfl ((chanWF_iff _).2 PState.default_bytes7) bs hne hb sched hg hend
  rw [this]
  simp [flush, PState.default]

end Midi.Props.C12
