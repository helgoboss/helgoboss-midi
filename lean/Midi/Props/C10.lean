/-
C10  (N)RPN scanner inverts the encoder for the sequences it documents.
-/
import Midi.Proofs.PN
import Midi.Props.C09
namespace Midi.Props.C10
open Midi Midi.Spec

/-- a scanner state that some per-channel abstraction describes (every reachable state is one) -/
def WF (s : PNScanner) : Prop := ∃ f, PNAbsRel s f

theorem reachable_wf (ops : List Op) (hv : ∀ op ∈ ops, op.Valid) :
    ∃ s outs, pnRun PNScanner.new ops = .ok (s, outs) ∧ WF s := by
  obtain ⟨s, h, r⟩ := pn_run PNScanner.new [] pnRel_new ops hv
  exact ⟨s, _, h, _, r⟩

/-- the Control Change messages of an encoding, in order -/
def encoded (m : PNMsg) (order : ByteOrder) : List Bytes := (specPNEncoding m order).filterMap id

/-- number selection: the two number bytes (in either order) of a registered / non-registered number -/
def selection (c n : Nat) (reg : Bool) : List Bytes :=
  [⟨176 + c, if reg then 101 else 99, n / 128⟩, ⟨176 + c, if reg then 100 else 98, n % 128⟩]

set_option linter.unusedVariables false in
theorem selection_after (c n : Nat) (reg : Bool) (a : PNAbs) (hn : n < 16384) :
    chanOutsPN c a (selection c n reg) = [none, none] ∧
    chanAfterPN c a (selection c n reg) = ⟨some (n / 128), some (n % 128), reg, none⟩ := by
  have j : ∀ (a : PNAbs) (k v : Nat), 98 ≤ k → justPN a ⟨176 + c, k, v⟩ = none := fun a k v hk =>
    justPN_other a _ (by show ¬ (_ ∧ _ ∧ (k = 6 ∨ k = 96 ∨ k = 97)); omega)
  constructor
  · rw [selection, chanOutsPN, chanOutsPN, j _ _ _ (by cases reg <;> decide), j _ _ _ (by cases reg <;> decide)]; rfl
  · rw [selection, chanAfterPN, chanAfterPN, pnAbs_step_numMsb c a _ rfl (by cases reg <;> simp),
      pnAbs_step_numLsb c _ _ rfl (by cases reg <;> simp)]
    cases reg <;> rfl

/-- running form [x, y, MSB, MSB, ...]: after one number selection, each repeated data byte (controller 6, 96 or 97)
    yields a 7-bit data entry / increment / decrement message — for streams of ANY length -/
theorem running_7bit (c n : Nat) (reg : Bool) (a : PNAbs) (hc : c < 16) (hn : n < 16384)
    (vs : List (Nat × Nat)) (hk : ∀ p ∈ vs, p.1 = 6 ∨ p.1 = 96 ∨ p.1 = 97) :
    chanOutsPN c a (selection c n reg ++ vs.map (fun p => ⟨176 + c, p.1, p.2⟩)) =
      [none, none] ++ vs.map (fun p => some ⟨c, n, p.2, reg, false,
        if p.1 = 96 then .dataIncrement else if p.1 = 97 then .dataDecrement else .dataEntry⟩) := by
  rw [chanOutsPN_append, (selection_after c n reg a hn).1, (selection_after c n reg a hn).2]
  congr 1
  induction vs with
  | nil => rfl
  | cons p ps ih =>
    have hp := hk p List.mem_cons_self
    rw [List.map_cons, List.map_cons, chanOutsPN, pnAbs_step_data c _ _ rfl (by show p.1 ≠ 38 ∧ (p.1 < 98 ∨ 101 < p.1); omega),
      ih fun q hq => hk q (List.mem_cons_of_mem _ hq), justPN_data c hc _ _ _ _ _ _ hp, pnReport_none,
      Nat.div_add_mod]

/-- running form [x, y, LSB, MSB, LSB, MSB, ...]: repeated (LSB, MSB) pairs each yield nothing, then a 14-bit
    data entry message — for streams of ANY length -/
theorem running_14bit (c n : Nat) (reg : Bool) (a : PNAbs) (hc : c < 16) (hn : n < 16384)
    (ps : List (Nat × Nat)) :
    chanOutsPN c a (selection c n reg ++ ps.flatMap (fun p => [⟨176 + c, 38, p.1⟩, ⟨176 + c, 6, p.2⟩])) =
      [none, none] ++ ps.flatMap (fun p => [none, some ⟨c, n, 128 * p.2 + p.1, reg, true, .dataEntry⟩]) := by
  rw [chanOutsPN_append, (selection_after c n reg a hn).1, (selection_after c n reg a hn).2]
  congr 1
  -- invariant: number selected, any stored value LSB (it is overwritten by the next LSB)
  suffices h : ∀ l0 : Option Nat,
      chanOutsPN c ⟨some (n / 128), some (n % 128), reg, l0⟩
        (ps.flatMap (fun p => [⟨176 + c, 38, p.1⟩, ⟨176 + c, 6, p.2⟩])) =
      ps.flatMap (fun p => [none, some ⟨c, n, 128 * p.2 + p.1, reg, true, .dataEntry⟩]) from h none
  induction ps with
  | nil => intro _; rfl
  | cons p ps ih =>
    intro l0
    rw [List.flatMap_cons, List.flatMap_cons, List.cons_append, List.cons_append, List.nil_append, chanOutsPN,
      chanOutsPN, pnAbs_step_v38 c _ _ rfl rfl, pnAbs_step_data c _ _ rfl (by simp), ih (some p.1),
      justPN_other _ _ (by simp), justPN_data c hc _ _ _ _ _ _ (Or.inl rfl), Nat.div_add_mod]
    rfl

/-- at the level of one channel's abstraction: whatever was stored before, the encoding of `m` yields nothing
    until its last message and exactly `m` on it -/
theorem chan_roundtrip (a : PNAbs) (m : PNMsg) (hm : m.Valid) (order : ByteOrder)
    (ho : m.is14Bit = true → order = .lsbFirst) :
    chanOutsPN m.channel a (encoded m order) =
      List.replicate ((encoded m order).length - 1) none ++ [some m] := by
  obtain ⟨c, n, v, r, b, d⟩ := m
  obtain ⟨hc, hn, h⟩ := hm
  cases b with
  | false =>
    -- 7-bit: the number selection and one data byte, whatever the byte order
    cases d
    · exact running_7bit c n r a hc hn [(6, v)] (by simp)
    · exact running_7bit c n r a hc hn [(96, v)] (by simp)
    · exact running_7bit c n r a hc hn [(97, v)] (by simp)
  | true =>
    -- 14-bit, LSB first: the number selection and one (LSB, MSB) pair
    obtain rfl : order = .lsbFirst := ho rfl
    obtain ⟨-, rfl⟩ : v < 16384 ∧ d = .dataEntry := h
    have := running_14bit c n r a hc hn [(v % 128, v / 128)]
    rwa [List.flatMap_singleton, List.flatMap_singleton, Nat.div_add_mod] at this

/-- Feeding the encoding of any 7-bit, increment or decrement message, or the LSB-first encoding of any 14-bit
    message — regardless of what the scanner was fed before (any WF state) — yields nothing until the last
    Control Change and exactly the original message on it. -/
theorem roundtrip (s : PNScanner) (hs : WF s) (m : PNMsg) (hm : m.Valid) (order : ByteOrder)
    (ho : m.is14Bit = true → order = .lsbFirst) :
    ∃ s', pnRun s ((encoded m order).map .feed) =
        .ok (s', List.replicate ((encoded m order).length - 1) none ++ [some m]) ∧ WF s' := by
  obtain ⟨f, hf⟩ := hs
  have henc : ∀ b ∈ encoded m order, b.Valid ∧ b.status = 176 + m.channel := fun b hb => by
    obtain ⟨a, ha, h⟩ := List.mem_filterMap.1 hb
    exact (C09.slots m hm order).2.2.2 b ((show a = some b from h) ▸ ha)
  obtain ⟨s', h1, r1⟩ := pn_run_abs s f hf ((encoded m order).map .feed) fun op hop => by
    obtain ⟨b, hb, rfl⟩ := List.mem_map.1 hop
    exact (henc b hb).1
  refine ⟨s', ?_, _, r1⟩
  rw [h1, (absOuts_single_channel m.channel f _ fun b hb => (henc b hb).2).1, chan_roundtrip (f m.channel) m hm order ho]

/-! non-vacuity -/
example : WF PNScanner.new := ⟨_, pnRel_new⟩
example : encoded (PNMsg.ctor 1 2 421 8000) .lsbFirst = [⟨178, 99, 3⟩, ⟨178, 98, 37⟩, ⟨178, 38, 64⟩, ⟨178, 6, 62⟩] := by decide

end Midi.Props.C10
