/-
C08  14-bit CC scanner reports exactly the justified messages.
`justified14 past m` (Midi/Spec/History.lean) is the property text as a function of the history alone.
-/
import Midi.Proofs.CC14
namespace Midi.Props.C08
open Midi Midi.Spec

/-- For ALL finite histories of feeds (any valid short message) and resets, of any length: the scanner never
    panics, every operation reports exactly what the history justifies, and so does the next input. -/
theorem exact (past : List Op) (hp : ∀ op ∈ past, op.Valid) (m : Bytes) (hm : m.Valid) :
    ∃ s s', ccRun CCScanner.new past = .ok (s, expected14 [] past) ∧
      s.feed rawImpl m = .ok (s', justified14 past m) := by
  obtain ⟨s, h, r⟩ := cc_run CCScanner.new [] ccRel_new past hp
  obtain ⟨s', h', _⟩ := cc_step s past r (.feed m) hm
  exact ⟨s, s', h, h'⟩

/-- every other input yields nothing -/
theorem nothing_else (past : List Op) (m : Bytes)
    (h : ¬ (176 ≤ m.status ∧ m.status < 192 ∧ 32 ≤ m.d1 ∧ m.d1 < 64)) : justified14 past m = none :=
  just14_other _ m h

/-- an LSB repeated alone re-reports with the retained MSB (the history function does not forget it) -/
theorem lsb_repeats (past : List Op) (c n v l1 l2 : Nat) (hc : c < 16) (hn : n < 32) :
    let a : Bytes := ⟨176 + c, n, v⟩
    let b1 : Bytes := ⟨176 + c, n + 32, l1⟩
    let b2 : Bytes := ⟨176 + c, n + 32, l2⟩
    justified14 (past ++ [.feed a]) b1 = some ⟨c, n, 128 * v + l1⟩ ∧
    justified14 (past ++ [.feed a, .feed b1]) b2 = some ⟨c, n, 128 * v + l2⟩ := by
  have ha : lastMsb (past ++ [.feed ⟨176 + c, n, v⟩]) c = some (n, v) := by
    rw [lastMsb_snoc, msbStep_cc c _ _ rfl]; exact if_pos hn
  constructor
  · rw [justified14_cc, ha, just14_lsb c n v l1 hn hc]
  · -- the first LSB message does not move the last MSB
    rw [justified14_cc, List.append_cons, lastMsb_snoc, msbStep_cc c _ _ rfl, if_neg (Nat.not_lt.mpr (Nat.le_add_left ..)),
      ha, just14_lsb c n v l2 hn hc]

set_option linter.unusedVariables false in
/-- a stale MSB is replaced by any newer MSB on that channel; an LSB before any MSB yields nothing -/
theorem stale_replaced (past : List Op) (c n v n' v' l : Nat) (hc : c < 16) (hn : n < 32) (hn' : n' < 32)
    (hne : n ≠ n') :
    justified14 (past ++ [.feed ⟨176 + c, n, v⟩, .feed ⟨176 + c, n', v'⟩]) ⟨176 + c, n + 32, l⟩ = none ∧
    justified14 [] ⟨176 + c, n + 32, l⟩ = none ∧ justified14 (past ++ [.reset]) ⟨176 + c, n + 32, l⟩ = none := by
  refine ⟨?_, ?_, ?_⟩
  · rw [justified14_cc, List.append_cons, lastMsb_snoc, msbStep_cc c _ _ rfl, if_pos hn']
    exact just14_eq_none fun v h => hne (by cases h; rfl)
  · exact just14_eq_none (o := none) nofun
  · rw [justified14_cc, lastMsb_snoc]
    exact just14_eq_none (o := none) nofun

/-! ### data independence (justifies the value abstraction of the correspondence's state-space exploration) -/

set_option linter.unusedVariables false in
/-- The scanner looks at status bytes and controller numbers only.  Relabelling the value
    bytes of every Control Change of the history and of the input by ANY function `f` relabels the two halves of
    the reported value by `f` and changes nothing else (in particular not WHETHER something is reported). -/
theorem data_independent (f : Nat → Nat) (past : List Op) (hp : ∀ op ∈ past, op.Valid) (m : Bytes) (hm : m.Valid) :
    justified14 (past.map (relabelOp f)) (relabelB f m)
      = (justified14 past m).map fun r => { r with value := 128 * f (r.value / 128) + f (r.value % 128) } := by
  rw [justified14_eq, justified14_eq, relabelB_status]
  exact just14_relabel f _ _ m hm fun h => lastMsb_map_relabel f _ (by omega) past

/-- the value abstraction used by the state-space exploration of the correspondence is sound for the scanner
    itself: after ANY relabelled history the scanner, fed the relabelled input, reports the relabelled message. -/
theorem scanner_data_independent (f : Nat → Nat) (hf : ∀ v, v < 128 → f v < 128)
    (past : List Op) (hp : ∀ op ∈ past, op.Valid) (m : Bytes) (hm : m.Valid) :
    ∃ s s', ccRun CCScanner.new (past.map (relabelOp f)) = .ok (s, expected14 [] (past.map (relabelOp f))) ∧
      s.feed rawImpl (relabelB f m) = .ok (s', (justified14 past m).map fun r =>
        { r with value := 128 * f (r.value / 128) + f (r.value % 128) }) := by
  rw [← data_independent f past hp m hm]
  exact exact _ (relabel_valid f hf past hp) _ (relabelB_valid f hf m hm)

/-! non-vacuity: collapsing every value to `v % 2` -/
example : justified14 ([.feed ⟨181, 2, 8⟩, .feed ⟨144, 60, 100⟩].map (relabelOp (· % 2))) (relabelB (· % 2) ⟨181, 34, 33⟩)
    = some ⟨5, 2, 1⟩ := by decide

/-! non-vacuity -/
example : justified14 [.feed ⟨181, 2, 8⟩, .feed ⟨144, 60, 100⟩] ⟨181, 34, 33⟩ = some ⟨5, 2, 1057⟩ := by decide

end Midi.Props.C08
