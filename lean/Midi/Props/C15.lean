/-
C15  Scanners keep channels isolated.
-/
import Midi.Proofs.PN
import Midi.Proofs.Polling
namespace Midi.Props.C15
open Midi Midi.Spec

/-! ### the two pure scanners: isolation follows from the exact history characterisations (C08, C11), because the
history functions of channel `c` ignore everything that is not a Control Change on `c` -/

theorem msb_ignores (c : Nat) (hc : c < 16) (acc : Option (Nat × Nat)) (op : Op) (h : opOnChannel c op = false) :
    msbStep c acc op = acc := by
  cases op with
  | reset => cases h
  | feed b => exact msbStep_other c acc b (off_channel hc h)

set_option linter.unusedVariables false in
theorem lastMsb_filter (c : Nat) (hc : c < 16) (ops : List Op) (hv : ∀ op ∈ ops, op.Valid) :
    lastMsb (ops.filter (opOnChannel c)) c = lastMsb ops c :=
  foldl_filter_onChannel c (msbStep c) (msb_ignores c hc) ops none

/-- 14-bit CC scanner: for ANY interleaved multi-channel history, the reports for the operations concerning channel
    `c` are exactly the reports of a scanner of its own that is fed only channel `c`'s inputs (and the resets) -/
theorem isolation_cc (c : Nat) (hc : c < 16) (ops : List Op) (hv : ∀ op ∈ ops, op.Valid) :
    ∃ s s' , ccRun CCScanner.new ops = .ok (s, expected14 [] ops) ∧
      ccRun CCScanner.new (ops.filter (opOnChannel c)) = .ok (s', expected14 [] (ops.filter (opOnChannel c))) ∧
      outsOn c ops (expected14 [] ops) = expected14 [] (ops.filter (opOnChannel c)) := by
  obtain ⟨s, h, _⟩ := cc_run CCScanner.new [] ccRel_new ops hv
  obtain ⟨s', h', _⟩ := cc_run CCScanner.new [] ccRel_new (ops.filter (opOnChannel c))
    (fun o ho => hv o (List.mem_filter.mp ho).1)
  refine ⟨s, s', h, h', ?_⟩
  rw [expected14_eq, expected14_eq]
  exact outsOn_expected lastMsb_snoc msbStep_other just14_not_cc c hc ops [] [] rfl

/-- every reported message carries the channel of the input that triggered it -/
theorem report_channel_cc (past : List Op) (b : Bytes) (m : CC14Msg) (h : justified14 past b = some m) :
    b.status < 240 ∧ m.channel = b.status % 16 := by
  obtain ⟨hc, v, -, rfl⟩ := just14_some (o := lastMsb past (b.status - 176)) h
  exact ⟨by omega, by show b.status - 176 = _; omega⟩

/-- system messages (no channel) report nothing and move no history function of any channel -/
theorem system_inert_cc (past : List Op) (b : Bytes) (hs : 240 ≤ b.status) (c : Nat) (hc : c < 16) :
    justified14 past b = none ∧ lastMsb (past ++ [.feed b]) c = lastMsb past c :=
  ⟨just14_not_cc _ b (by omega), by rw [lastMsb_snoc, msbStep_other]; omega⟩

/-- (N)RPN scanner: the reports for channel `c` under any interleaved history are those of a scanner of its own -/
theorem isolation_pn (c : Nat) (hc : c < 16) (ops : List Op) (hv : ∀ op ∈ ops, op.Valid) :
    ∃ s s' , pnRun PNScanner.new ops = .ok (s, expectedPN [] ops) ∧
      pnRun PNScanner.new (ops.filter (opOnChannel c)) = .ok (s', expectedPN [] (ops.filter (opOnChannel c))) ∧
      outsOn c ops (expectedPN [] ops) = expectedPN [] (ops.filter (opOnChannel c)) := by
  obtain ⟨s, h, _⟩ := pn_run PNScanner.new [] pnRel_new ops hv
  obtain ⟨s', h', _⟩ := pn_run PNScanner.new [] pnRel_new (ops.filter (opOnChannel c))
    (fun o ho => hv o (List.mem_filter.mp ho).1)
  refine ⟨s, s', h, h', ?_⟩
  rw [expectedPN_eq, expectedPN_eq]
  exact outsOn_expected pnAbs_snoc pnAbs_step_other justPN_not_cc c hc ops [] [] rfl

theorem report_channel_pn (past : List Op) (b : Bytes) (m : PNMsg) (h : justifiedPN past b = some m) :
    b.status < 240 ∧ m.channel = b.status % 16 := by
  obtain ⟨hc, hi, lo, -, -, rfl⟩ := justPN_some (a := PNAbs.of past (b.status - 176)) h
  exact ⟨by omega, by rw [(pnReport_fields ..).1]; omega⟩

theorem system_inert_pn (past : List Op) (b : Bytes) (hs : 240 ≤ b.status) (c : Nat) (hc : c < 16) :
    justifiedPN past b = none ∧ PNAbs.of (past ++ [.feed b]) c = PNAbs.of past c :=
  ⟨justPN_not_cc (PNAbs.of past (b.status - 176)) b (by omega), by rw [pnAbs_snoc, pnAbs_step_other]; omega⟩

/-- does the operation concern channel `c`?  channel messages on `c`, polls of `c`, every reset and every time step -/
def topOnChannel (c : Nat) : TOp → Bool
  | .feed b => b.status < 240 && b.status % 16 == c
  | .poll ch => ch == c
  | .reset => true
  | .tick _ => true

theorem project_filter (c : Nat) (hc : c < 16) (ops : List TOp) :
    ∀ now, project c now (ops.filter (topOnChannel c)) = project c now ops := by
  induction ops with
  | nil => intro; rfl
  | cons op ops ih =>
    intro now
    by_cases hon : topOnChannel c op = true
    · simp only [List.filter, hon, project, ih]
    · have hoff : topOnChannel c op = false := by simpa using hon
      have hp : projectOp c now op = none ∧ nextNow now op = now := by
        cases op with
        | feed b => exact ⟨if_neg (off_channel hc hoff), rfl⟩
        | poll ch => exact ⟨if_neg (ne_of_beq_false hoff), rfl⟩
        | reset => cases hoff
        | tick d => cases hoff
      simp only [List.filter, hoff, project, hp.1, hp.2, ih]

/-- Polling scanner: under ANY interleaving of feeds on all channels, polls, resets and time steps, the final
    state of channel `c` and the results of the operations concerning `c` are exactly those of channel `c`'s
    sub-scanner run alone on `c`'s own events — hence equal to those of a scanner of its own that is given only
    channel `c`'s inputs, polls, the resets and the same passage of time. -/
theorem isolation_polling (c : Nat) (hc : c < 16) (now timeout : Nat) (ops : List TOp) (hv : ∀ op ∈ ops, op.Valid) :
    ∃ n1 s1 o1 n2 s2 o2,
      pRun now (PScanner.new timeout) ops = .ok ((n1, s1), o1) ∧
      pRun now (PScanner.new timeout) (ops.filter (topOnChannel c)) = .ok ((n2, s2), o2) ∧
      s1[c] = s2[c] ∧
      outputsOn c now ops o1 = outputsOn c now (ops.filter (topOnChannel c)) o2 := by
  obtain ⟨n1, s1, o1, h1, hs1, ho1⟩ := p_run_new_channel c hc now timeout ops hv
  obtain ⟨n2, s2, o2, h2, hs2, ho2⟩ := p_run_new_channel c hc now timeout (ops.filter (topOnChannel c))
    (fun o ho => hv o (List.mem_filter.mp ho).1)
  refine ⟨n1, s1, o1, n2, s2, o2, h1, h2, ?_, ?_⟩
  · rw [hs1, hs2, project_filter c hc ops]
  · rw [ho1, ho2, project_filter c hc ops]

/-- every message a channel's sub-scanner reports carries that channel -/
theorem report_channel_polling (ch : Nat) (c : PChan) (e : PEv) (m : PNMsg)
    (h : (c.ev ch e).2.1 = some m ∨ (c.ev ch e).2.2 = some m) : m.channel = ch := by
  cases e with
  | reset => simp [PChan.ev] at h
  | poll now => exact c.poll_channel now ch m (by simpa [PChan.ev] using h)
  | cc cn cv now => exact h.elim ((c.state.onCC_channel now ch cn cv).1 m) ((c.state.onCC_channel now ch cn cv).2 m)

/-- system messages (no channel) never report anything and never affect any channel -/
theorem system_inert_polling (now : Nat) (s : PScanner) (b : Bytes) (hv : b.Valid) (hs : 240 ≤ b.status) :
    s.feed rawImpl now b = .ok (s, (none, none)) :=
  PScanner.feed_not_cc now s b hv (by omega)

end Midi.Props.C15
