/-
C05  Integer conversions, parsing, ordering and formatting are numerically faithful.
-/
import Midi.Props.C04
namespace Midi.Props.C05
open Midi Midi.Spec

/-- Every implemented conversion — into a restricted type, out of one, or between two — preserves the
    mathematical value; the fallible ones accept exactly the values within the destination's range.
    For every pointer width and EVERY value of the source type. -/
theorem conversions_faithful (pw : Nat) (hpw : pw ∈ pointerWidths) (e : ConvEntry) (he : e ∈ Gen.conversions)
    (x : Int) (hx : inTy pw e.src x) : convModel pw e x = convSpec pw e x :=
  (C04.table_faithful pw hpw e he x hx).1

/-- Parsing accepts exactly the unsigned decimal numerals (digits only, optionally preceded by '+', any
    length, leading zeros included) whose value is in range, and returns that value — for ALL strings. -/
theorem parse_iff (pw : Nat) (hpw : pw ∈ pointerWidths) (T : NewtypeDef) (hT : T ∈ Gen.newtypes)
    (s : List Char) (v : Nat) :
    parseNewtype pw T s = some v ↔ IsNumeral s ∧ numeralValue s = v ∧ v ≤ T.max :=
  parseNewtype_iff ((C04.consts_in_range.1 T hT).2.2.2 pw hpw) s v

/-- Display prints the decimal value: digits only, no sign, no leading zero, and they denote the value -/
theorem display_decimal (n : Nat) :
    (∀ c ∈ displayNat n, c.isDigit = true) ∧ digitsValue (displayNat n) 0 = n ∧
    ∃ c cs, displayNat n = c :: cs ∧ c.isDigit = true ∧ (cs ≠ [] → c ≠ '0') := by
  have a := displayNat_spec n
  obtain ⟨c, cs, h1, h2, _, h4⟩ := displayNat_head n
  exact ⟨a.1, a.2.1, c, cs, h1, h2, h4⟩

theorem numeral_no_plus (c : Char) (cs : List Char) (h : c ≠ '+') :
    (IsNumeral (c :: cs) ↔ ∀ x ∈ c :: cs, x.isDigit = true) ∧ numeralValue (c :: cs) = digitsValue (c :: cs) 0 :=
  numeral_cons h cs

/-- printing then parsing is the identity on every value of every restricted type -/
theorem display_parse (pw : Nat) (hpw : pw ∈ pointerWidths) (T : NewtypeDef) (hT : T ∈ Gen.newtypes)
    (v : Nat) (hv : v ≤ T.max) : parseNewtype pw T (displayNat v) = some v := by
  rw [parse_iff pw hpw T hT]
  have a := displayNat_spec v
  obtain ⟨c, cs, h1, h2, _, _⟩ := displayNat_head v
  have hplus : c ≠ '+' := by rintro rfl; exact absurd h2 (by decide)
  have hn := numeral_no_plus c cs hplus
  rw [h1] at a ⊢
  exact ⟨hn.1.mpr a.1, by rw [hn.2]; exact a.2.1, hv⟩

/-- whatever width, fill, alignment, sign or precision the caller's format spec asks for, the decimal digits are
    printed intact and contiguously; everything around them is fill, zero padding or a plus sign -/
theorem display_with_frame (f : FmtSpec) (n : Nat) :
    ∃ pre post, displayWith f n = pre ++ displayNat n ++ post ∧
      ∀ c ∈ pre ++ post, c = f.fill ∨ c = '0' ∨ c = '+' := by
  unfold displayWith padIntegral
  have hs := Pad.sign f
  generalize (if f.plus then ['+'] else []) = sign at hs
  cases f.width with
  | none => exact ⟨sign, [], by simp, hs.append .nil⟩
  | some w =>
    simp only
    generalize w - (sign.length + (displayNat n).length) = pad
    split
    · exact ⟨sign, [], by simp, hs.append .nil⟩
    · split
      · exact ⟨sign ++ List.replicate pad '0', [], by simp, (hs.append (.zero f pad)).append .nil⟩
      · cases f.align.getD .right with
        | left => exact ⟨sign, List.replicate pad f.fill, by simp, hs.append (.fill f pad)⟩
        | right => exact ⟨List.replicate pad f.fill ++ sign, [], by simp, ((Pad.fill f pad).append hs).append .nil⟩
        | center =>
          exact ⟨List.replicate (pad / 2) f.fill ++ sign, List.replicate ((pad + 1) / 2) f.fill, by simp,
            ((Pad.fill f _).append hs).append (.fill f _)⟩

/-- the plain `{}` spec prints exactly the digits -/
theorem display_with_default (n : Nat) : displayWith {} n = displayNat n := by
  simp [displayWith, padIntegral]

/-- MIN, MAX and Default have the numeric values 0, max, 0.  Equality and ordering are `derive`d on the
    one-field tuple struct: the model of that derive IS comparison of the payloads (modelled, validated by
    exhaustive correspondence), so they agree with the numeric order by construction. -/
theorem consts_numeric (T : NewtypeDef) : T.minConst = 0 ∧ T.maxConst = T.max ∧ T.default = 0 := ⟨rfl, rfl, rfl⟩

/-! non-vacuity -/
example : IsNumeral ['+', '0', '0', '7'] ∧ numeralValue ['+', '0', '0', '7'] = 7 := by
  refine ⟨⟨by simp, by decide⟩, by decide⟩
example : displayNat 16383 = ['1', '6', '3', '8', '3'] := by decide +kernel
example : displayWith { plus := true, zero := true, width := some 7 } 42 = ['+', '0', '0', '0', '0', '4', '2'] := by decide +kernel
example : displayWith { fill := '*', align := some .center, width := some 5 } 7 = ['*', '*', '7', '*', '*'] := by decide +kernel

end Midi.Props.C05
