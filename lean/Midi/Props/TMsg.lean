/-
Property theorems restated for the code AS TRANSLATED from the Rust source by tools/rs2lean.py:
control_change_14_bit_message.rs and parameter_number_message.rs (Midi/Gen/CCMsg, PNMsgFile) — regenerated from /repo's working tree on every run.
Each theorem follows from the theorem about the hand-written model and the proved equivalence of the translated code
with that model (Midi/Proofs/Gen*.lean), so a change to the source file that alters behaviour breaks these theorems
even where no test input exposes it.
-/
import Midi.Proofs.GenMsg
import Midi.Props.C07
import Midi.Props.C09

namespace Midi.Props.TMsg
open Midi Midi.Spec Midi.Gen Midi.GenTie

/-- C07 for the translated `ControlChange14BitMessage`: `new` succeeds exactly on MSB controller numbers below 32,
    and the translated `to_short_messages` produces, through both factories, controller n with the high 7 bits then
    controller n + 32 with the low 7 bits on the message's channel -/
theorem cc14_new (ch n v : Nat) (hn : n < 128) :
    CCMsg.ControlChange14BitMessage.new ch n v =
      if n < 32 then .ok ⟨ch, n, v⟩ else .error .cc14MsbAssert := by
  rw [CCM.new, C07.new_ok_iff ch n v hn]
  by_cases h : n < 32 <;> simp [h, Except.map, CCM.gmsg]

theorem cc14_encode (m : CCMsg.ControlChange14BitMessage) (hm : (CCM.msg m).Valid) :
    (m.to_short_messages rawFactory).map (·.toList) = .ok (specCC14Encoding (CCM.msg m)) ∧
    (m.to_short_messages structuredFactory).map (·.toList) =
      .ok [.controlChange m.channel m.msb_controller_number (m.value / 128),
           .controlChange m.channel (m.msb_controller_number + 32) (m.value % 128)] := by
  rw [CCM.to_short_messages, CCM.to_short_messages]
  exact ⟨(C07.encode _ hm).1, (C07.encode _ hm).2.1⟩

/-- C09 for the translated `ParameterNumberMessage`: the eight translated constructors build exactly the messages of
    the constructor table (whose fields C09.constructors pins down), and the translated `to_short_messages` encodes,
    through both factories and in both byte orders, to the specified Control Change sequence -/
theorem pn_constructors (c n v : Nat) :
    PNMsgFile.ParameterNumberMessage.non_registered_7_bit c n v = .ok (PNM.gmsg (PNMsg.ctor 0 c n v)) ∧
    PNMsgFile.ParameterNumberMessage.non_registered_14_bit c n v = .ok (PNM.gmsg (PNMsg.ctor 1 c n v)) ∧
    PNMsgFile.ParameterNumberMessage.non_registered_decrement c n v = .ok (PNM.gmsg (PNMsg.ctor 2 c n v)) ∧
    PNMsgFile.ParameterNumberMessage.non_registered_increment c n v = .ok (PNM.gmsg (PNMsg.ctor 3 c n v)) ∧
    PNMsgFile.ParameterNumberMessage.registered_7_bit c n v = .ok (PNM.gmsg (PNMsg.ctor 4 c n v)) ∧
    PNMsgFile.ParameterNumberMessage.registered_14_bit c n v = .ok (PNM.gmsg (PNMsg.ctor 5 c n v)) ∧
    PNMsgFile.ParameterNumberMessage.registered_decrement c n v = .ok (PNM.gmsg (PNMsg.ctor 6 c n v)) ∧
    PNMsgFile.ParameterNumberMessage.registered_increment c n v = .ok (PNM.gmsg (PNMsg.ctor 7 c n v)) :=
  PNM.ctors c n v

theorem pn_encode (m : PNMsgFile.ParameterNumberMessage) (hm : (PNM.msg m).Valid) (o : PNMsgFile.DataEntryByteOrder) :
    (m.to_short_messages rawFactory o).map (·.toList) = .ok (specPNEncoding (PNM.msg m) (PNM.ord o)) ∧
    (m.to_short_messages structuredFactory o).map (·.toList) =
      .ok ((specPNEncoding (PNM.msg m) (PNM.ord o)).map (Option.map (fun b => SMsg.controlChange m.channel b.d1 b.d2))) := by
  rw [PNM.to_short_messages, PNM.to_short_messages]
  exact ⟨C09.encode_raw _ hm _, C09.encode_structured _ hm _⟩

/-- C09, last clause, for the translated code: the array conversion equals MSB-first encoding (and C07: the array
    conversion of a 14-bit CC message is its encoding) -/
theorem array_conversions {β : Type} (F : Factory β) (m : PNMsgFile.ParameterNumberMessage) (c : CCMsg.ControlChange14BitMessage) :
    PNMsgFile.ParameterNumberMessage.from_array F m = m.to_short_messages F .MsbFirst ∧
    CCMsg.ControlChange14BitMessage.from_array F c = c.to_short_messages F :=
  ⟨PNM.from_array F m, CCM.from_array F c⟩

end Midi.Props.TMsg
