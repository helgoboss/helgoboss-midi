/-
Property theorems restated for the code AS TRANSLATED from the Rust source by tools/rs2lean.py:
control_change_14_bit_message_scanner.rs (Midi/Gen/CCScan) — regenerated from /repo's working tree on every run.
Each theorem follows from the theorem about the hand-written model and the proved equivalence of the translated code
with that model (Midi/Proofs/Gen*.lean), so a change to the source file that alters behaviour breaks these theorems
even where no test input exposes it.
-/
import Midi.Proofs.GenCC
import Midi.Props.C07
import Midi.Props.C08
import Midi.Props.C15
import Midi.Props.C16
import Midi.Props.C17

namespace Midi.Props.TCC
open Midi Midi.Spec Midi.Gen Midi.GenTie Midi.GenTie.CC

abbrev Scanner := CCScan.ControlChange14BitMessageScanner

/-- `new()` never panics and is `default()` -/
theorem new_is_default : CCScan.ControlChange14BitMessageScanner.new = .ok default := rfl

/-- C08 for the translated scanner: for ALL histories of valid feeds and resets the translated `feed`/`reset` never
    panic, every operation reports exactly what the history justifies, and so does the next input -/
theorem exact (past : List Op) (hp : ∀ op ∈ past, op.Valid) (m : Bytes) (hm : m.Valid) :
    ∃ s s', grun default past = .ok (expected14 [] past, s) ∧
      s.feed rawImpl m = .ok (justified14 past m, s') := by
  obtain ⟨s, s', h1, h2⟩ := C08.exact past hp m hm
  exact ⟨_, _, grun_default h1, feed_of_model h2⟩

/-- C08, data independence, for the translated scanner: relabelling the value bytes of every Control Change of the
    history and of the input by any `f` (into 0..127) relabels the two halves of the reported value, nothing else. -/
theorem data_independent (f : Nat → Nat) (hf : ∀ v, v < 128 → f v < 128)
    (past : List Op) (hp : ∀ op ∈ past, op.Valid) (m : Bytes) (hm : m.Valid) :
    ∃ s s', grun default (past.map (relabelOp f)) = .ok (expected14 [] (past.map (relabelOp f)), s) ∧
      s.feed rawImpl (relabelB f m) = .ok ((justified14 past m).map fun r =>
        { r with value := 128 * f (r.value / 128) + f (r.value % 128) }, s') := by
  rw [← C08.data_independent f past hp m hm]
  exact exact _ (relabel_valid f hf past hp) _ (relabelB_valid f hf m hm)

/-- C07 for the translated scanner: after ANY history, feeding the two encoded messages reports nothing, then
    exactly the original message -/
theorem roundtrip (past : List Op) (hp : ∀ op ∈ past, op.Valid) (m : CC14Msg) (hm : m.Valid) :
    ∃ s s1 s2 outs, grun default past = .ok (outs, s) ∧
      s.feed rawImpl ⟨176 + m.channel, m.msb, m.value / 128⟩ = .ok (none, s1) ∧
      s1.feed rawImpl ⟨176 + m.channel, m.msb + 32, m.value % 128⟩ = .ok (some m, s2) := by
  obtain ⟨s, outs, h, wf⟩ := C07.reachable_wf past hp
  obtain ⟨s1, s2, h1, h2, _⟩ := C07.roundtrip s wf m hm
  exact ⟨_, _, _, outs, grun_default h, feed_of_model h1, feed_of_model h2⟩

/-- C16 for the translated scanner: from EVERY state a non-contributing valid message reports nothing and leaves
    the scanner equal -/
theorem transparent (s : Scanner) (b : Bytes) (hv : b.Valid) (hn : ¬ C16.contributes14 b) :
    s.feed rawImpl b = .ok (none, s) := by
  rw [feed, C16.transparent_cc _ b hv hn]; simp [back]

/-- C17 for the translated scanner: `reset()` never panics and yields, from EVERY state, exactly `default()` = `new()` -/
theorem reset_is_new (s : Scanner) : s.reset = .ok ((), default) := by
  rw [reset, C17.reset_eq_new_cc, default_eq]

/-- C15 for the translated scanner: the reports for the operations concerning channel `c` in ANY interleaved
    history are exactly the reports of a translated scanner of its own fed only channel `c`'s inputs and the resets -/
theorem isolation (c : Nat) (hc : c < 16) (ops : List Op) (hv : ∀ op ∈ ops, op.Valid) :
    ∃ s s' o o', grun default ops = .ok (o, s) ∧ grun default (ops.filter (opOnChannel c)) = .ok (o', s') ∧
      outsOn c ops o = o' := by
  obtain ⟨s, s', h1, h2, h3⟩ := C15.isolation_cc c hc ops hv
  exact ⟨_, _, _, _, grun_default h1, grun_default h2, h3⟩

end Midi.Props.TCC
