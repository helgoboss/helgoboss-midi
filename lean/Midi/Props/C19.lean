/-
C19  Deserialization enforces the same invariants as the constructors.
A statement about the MODEL of serde's derive (Midi/Model/Serde.lean); the real Deserialize impls are tied to it by
the correspondence run in the serde + serde_repr configuration.
-/
import Midi.Proofs.Serde
import Midi.Props.C09
namespace Midi.Props.C19
open Midi Midi.Spec

/-- restricted integers: any input either fails or yields an in-range value; every in-range value deserializes to itself -/
theorem newtype_sound_complete (max : Nat) (hm : max ≤ 65535) (x : Int) :
    (∀ v, deNewtype max x = some v → v ≤ max ∧ (v : Int) = x) ∧ (0 ≤ x ∧ x ≤ max → deNewtype max x = some x.toNat) :=
  ⟨fun _ h => ⟨(deNewtype_eq_some.mp h).2.1, deNewtype_val h⟩, fun h => deNewtype_eq_some.mpr ⟨by omega, by omega, by omega⟩⟩

/-- short messages: a deserialized RawShortMessage always has a valid status byte and 7-bit data bytes — it could
    have been built by `from_bytes`; and every valid message deserializes from its own bytes -/
theorem raw_sound_complete (s d1 d2 : Int) :
    (∀ m, deRaw s d1 d2 = some m → m.Valid ∧ (m.status : Int) = s ∧ (m.d1 : Int) = d1 ∧ (m.d2 : Int) = d2) ∧
    (∀ b : Bytes, b.Valid → deRaw b.status b.d1 b.d2 = some b) :=
  ⟨fun _ h => deRaw_eq_some.mp h, fun _ hv => deRaw_eq_some.mpr ⟨hv, rfl, rfl, rfl⟩⟩

/-- 14-bit Control Change messages: MSB controller number 0–31, exactly what `new` accepts -/
theorem cc14_sound_complete (ch msb value : Int) :
    (∀ m, deCC14 ch msb value = some m → m.Valid ∧ CC14Msg.new m.channel m.msb m.value = .ok m) ∧
    (∀ m : CC14Msg, m.Valid → deCC14 m.channel m.msb m.value = some m) := by
  refine ⟨fun m h => ?_, fun m hv => deCC14_eq_some.mpr ⟨hv, rfl, rfl, rfl⟩⟩
  have hv : m.Valid := (deCC14_eq_some.mp h).1
  exact ⟨hv, by rw [CC14Msg.new_eq, if_pos hv.2.1]⟩

/-- (N)RPN messages: resolution, value and data type consistent — exactly the values of the eight constructors -/
theorem pn_sound_complete (ch number value reg is14 dt : Int) :
    (∀ m, dePN ch number value reg is14 dt = some m →
        m.Valid ∧ ∃ i, i < 8 ∧ PNMsg.ctor i m.channel m.number m.value = m) ∧
    (∀ m : PNMsg, m.Valid →
        dePN m.channel m.number m.value (if m.isRegistered then 1 else 0) (if m.is14Bit then 1 else 0) m.dataType.code = some m) :=
  ⟨fun m h => have hv := (dePN_eq_some.mp h).1; ⟨hv, C09.valid_is_constructed m hv⟩,
   fun _ hv => dePN_eq_some.mpr ⟨hv, rfl, rfl, rfl, rfl, rfl, rfl⟩⟩

/-- message types (serde_repr): exactly the 23 discriminants; the structured form and quarter frames are built from
    range-checked parts only, so every deserialized value is Valid -/
theorem enums_sound :
    (∀ x t, deMsgType x = some t → (t.toU8 : Int) = x) ∧ (∀ t : MsgType, deMsgType t.toU8 = some t) ∧
    (∀ p a b f, deQFrame p a b = some f → f.Valid) ∧
    (∀ v f1 f2 f3 m, deStructured v f1 f2 f3 = some m → m.Valid) :=
  ⟨fun _ _ => deMsgType_eq_some.mp, fun _ => deMsgType_eq_some.mpr rfl, deQFrame_valid, deStructured_valid⟩

end Midi.Props.C19
