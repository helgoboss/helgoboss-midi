/-
C06  Factory constructors build exactly the message they describe.
-/
import Midi.Proofs.Ctors
namespace Midi.Props.C06
open Midi Midi.Spec

/-- For EVERY factory implementation `F` and all valid arguments, each named constructor hands
    `from_bytes_unchecked` exactly the bytes the property describes: status = type byte + channel,
    14-bit arguments split into low 7 bits (data byte 1) and high 7 bits (data byte 2), unused data bytes zero;
    those bytes are a valid message of the named type. -/
theorem named_bytes {α} (F : Factory α) (k : Ctor) (a b c : Nat) (h : k.ArgsValid a b c) :
    modelNamed F k a b c = F.ofBytesUnchecked (specNamed k a b c) ∧ (specNamed k a b c).Valid ∧
    specType (specNamed k a b c).status = k.msgType := by
  refine ⟨by rw [modelNamed_eq F k a b c h, specNamed_eq k a b c h], ?_, ?_⟩
  · rw [specNamed_eq k a b c h]
    exact (specStructured_bytesOf _ (specNamedStructured_valid k a b c h)).1
  · rw [specNamed_eq k a b c h]
    cases k <;> simp only [Ctor.ArgsValid] at h
    case noteOff | noteOn | polyphonicKeyPressure | controlChange | programChange | channelPressure | pitchBendChange =>
      show specType (buildStatusByte _ a) = _
      rw [(buildStatusByte_toU8 _ a h.1 (by decide)).1]
      exact specType_toU8_add _ a h.1 (.inl (by decide))
    all_goals simp only [bytesOf, structuredImpl, specNamedStructured, SMsg.statusByte, specType_toU8, Ctor.msgType]

/-- the structured form of those bytes has exactly the arguments as its fields (so, by C02, every accessor
    returns exactly the corresponding argument), and the bytes are already canonical -/
theorem named_fields (k : Ctor) (a b c : Nat) (h : k.ArgsValid a b c) :
    specStructured (specNamed k a b c) = specNamedStructured k a b c ∧ canon (specNamed k a b c) = specNamed k a b c := by
  obtain ⟨hv, hs⟩ := specStructured_bytesOf _ (specNamedStructured_valid k a b c h)
  rw [specNamed_eq k a b c h]
  refine ⟨hs, ?_⟩
  rw [← bytesOf_specStructured _ hv, hs]

/-- RawShortMessage: the constructor returns exactly those bytes -/
theorem named_raw (k : Ctor) (a b c : Nat) (h : k.ArgsValid a b c) :
    modelNamed rawFactory k a b c = .ok (specNamed k a b c) := (named_bytes rawFactory k a b c h).1

/-- StructuredShortMessage: the constructor returns the value whose fields are the arguments -/
theorem named_structured (k : Ctor) (a b c : Nat) (h : k.ArgsValid a b c) :
    modelNamed structuredFactory k a b c = .ok (specNamedStructured k a b c) := by
  obtain ⟨hv, hs⟩ := specStructured_bytesOf _ (specNamedStructured_valid k a b c h)
  rw [modelNamed_eq structuredFactory k a b c h]
  exact (structured_ofBytes _ hv).trans (congrArg _ hs)

/-- the generic constructors panic exactly when the type is not of that category, and otherwise place type,
    channel and data bytes unchanged — for every factory `F` -/
theorem generic_constructors {α} (F : Factory α) (t : MsgType) (ch a b : Nat) (hc : ch < 16) :
    channelMessage F t ch a b =
      (match specChannelMessage t.toU8 ch a b with | some bs => F.ofBytesUnchecked bs | none => .error .categoryAssert) ∧
    systemCommonMessage F t a b =
      (match specSystemCommonMessage t.toU8 a b with | some bs => F.ofBytesUnchecked bs | none => .error .categoryAssert) ∧
    systemRealTimeMessage F t =
      (match specSystemRealTimeMessage t.toU8 with | some bs => F.ofBytesUnchecked bs | none => .error .categoryAssert) := by
  obtain ⟨h0, h1, h2, -⟩ := superType_iff_specCategory t
  simp only [channelMessage, systemCommonMessage, systemRealTimeMessage, specChannelMessage, specSystemCommonMessage,
    specSystemRealTimeMessage, ne_eq, h0, h1, h2]
  refine ⟨?_, ?_, ?_⟩
  · by_cases h : specCategory t.toU8 = 0
    · rw [if_neg (not_not_intro h), if_pos h, (buildStatusByte_toU8 t ch hc ((specCategory_eq_zero _).mp h)).1]
    · rw [if_pos h, if_neg h]
  · by_cases h : specCategory t.toU8 = 1 <;> simp only [h, not_true_eq_false, not_false_eq_true, if_true, if_false]
  · by_cases h : specCategory t.toU8 = 2 <;> simp only [h, not_true_eq_false, not_false_eq_true, if_true, if_false]

/-- the test_util shorthands panic exactly when an argument is out of range and otherwise build the same
    message as the factory constructor -/
theorem test_util_shorthands (x y z : Nat) :
    tuNoteOn x y z = (if x ≤ 15 ∧ y ≤ 127 ∧ z ≤ 127 then modelNamed rawFactory .noteOn x y z else .error .testUtilExpect) ∧
    tuNoteOff x y z = (if x ≤ 15 ∧ y ≤ 127 ∧ z ≤ 127 then modelNamed rawFactory .noteOff x y z else .error .testUtilExpect) ∧
    tuControlChange x y z = (if x ≤ 15 ∧ y ≤ 127 ∧ z ≤ 127 then modelNamed rawFactory .controlChange x y z else .error .testUtilExpect) ∧
    tuPolyphonicKeyPressure x y z = (if x ≤ 15 ∧ y ≤ 127 ∧ z ≤ 127 then modelNamed rawFactory .polyphonicKeyPressure x y z else .error .testUtilExpect) ∧
    tuProgramChange x y = (if x ≤ 15 ∧ y ≤ 127 then modelNamed rawFactory .programChange x y 0 else .error .testUtilExpect) ∧
    tuChannelPressure x y = (if x ≤ 15 ∧ y ≤ 127 then modelNamed rawFactory .channelPressure x y 0 else .error .testUtilExpect) ∧
    tuPitchBendChange x y = (if x ≤ 15 ∧ y ≤ 16383 then modelNamed rawFactory .pitchBendChange x y 0 else .error .testUtilExpect) ∧
    tuSongPositionPointer x = (if x ≤ 16383 then modelNamed rawFactory .songPositionPointer x 0 0 else .error .testUtilExpect) ∧
    tuSongSelect x = (if x ≤ 127 then modelNamed rawFactory .songSelect x 0 0 else .error .testUtilExpect) := by
  simp only [tuNoteOn, tuNoteOff, tuControlChange, tuPolyphonicKeyPressure, tuProgramChange, tuChannelPressure,
    tuPitchBendChange, tuSongPositionPointer, tuSongSelect, tuChannel, tuKeyNumber, tuControllerNumber, tuU7, tuU14,
    tuConv_bind, if_if_error]
  exact ⟨rfl, rfl, rfl, rfl, rfl, rfl, rfl, rfl, rfl⟩

/-- the helpers for 14-bit CC and (N)RPN messages: panic exactly for out-of-range arguments (the 14-bit CC helper also,
    as documented for `new`, for an MSB controller number above 31), otherwise the described message -/
theorem test_util_composite (x y z : Nat) (reg : Bool) :
    tuControlChange14Bit x y z =
      (if x ≤ 15 ∧ y ≤ 127 ∧ z ≤ 16383 then (if y < 32 then .ok ⟨x, y, z⟩ else .error .cc14MsbAssert)
       else .error .testUtilExpect) ∧
    tuPn reg false x y z =
      (if x ≤ 15 ∧ y ≤ 16383 ∧ z ≤ 127 then .ok ⟨x, y, z, reg, false, .dataEntry⟩ else .error .testUtilExpect) ∧
    tuPn reg true x y z =
      (if x ≤ 15 ∧ y ≤ 16383 ∧ z ≤ 16383 then .ok ⟨x, y, z, reg, true, .dataEntry⟩ else .error .testUtilExpect) := by
  simp only [tuControlChange14Bit, tuPn, tuChannel, tuControllerNumber, tuU14, tuU7, tuConv_bind, if_if_error,
    Bool.false_eq_true, if_false, if_true]
  refine ⟨?_, rfl, rfl⟩
  rw [CC14Msg.new_eq]

/-! non-vacuity -/
example : Ctor.pitchBendChange.ArgsValid 15 16383 0 ∧ specNamed .pitchBendChange 15 16383 0 = ⟨0xEF, 127, 127⟩ := by decide
example : Ctor.timeCodeQuarterFrame.ArgsValid 7 1 3 ∧ specNamed .timeCodeQuarterFrame 7 1 3 = ⟨0xF1, 0x77, 0⟩ := by decide

end Midi.Props.C06
