/-
C04 for the scanners: values they produce are in range — every message a scanner reports, for any history of valid
inputs, is one the checked public constructors can build.
-/
import Midi.Proofs.PN
import Midi.Proofs.Polling
namespace Midi.Props.C04S
open Midi Midi.Spec

/-- 14-bit CC scanner: every reported message is valid (channel < 16, MSB controller < 32, value < 16384) -/
theorem cc_reports_valid (o : Option (Nat × Nat)) (hb : Bounded14 o) (b : Bytes) (hv : b.Valid) (m : CC14Msg)
    (h : just14 o b = some m) : m.Valid := by
  obtain ⟨hc, v, rfl, rfl⟩ := just14_some h
  have := (hb _ v rfl).2
  have := hv.2.2.2
  exact ⟨by show b.status - 176 < 16; omega, by show b.d1 - 32 < 32; omega, by show 128 * v + b.d2 < 16384; omega⟩

theorem cc_history_reports_valid (past : List Op) (hp : ∀ op ∈ past, op.Valid) (b : Bytes) (hv : b.Valid) (m : CC14Msg)
    (h : justified14 past b = some m) : m.Valid :=
  cc_reports_valid _ (lastMsb_bounded _ past hp) b hv m h

/-- (N)RPN scanner: every reported message is valid (7-bit value <= 127, 14-bit implies data entry, ...) -/
theorem pn_reports_valid (a : PNAbs) (hb : a.Bounded) (b : Bytes) (hv : b.Valid) (m : PNMsg)
    (h : justPN a b = some m) : m.Valid := by
  obtain ⟨hc, hi, lo, h1, h2, rfl⟩ := justPN_some h
  have := hb.1 hi h1
  have := hb.2.1 lo h2
  exact pnReport_valid _ _ _ _ _ _ (by omega) (by omega) hb.2.2 hv.2.2.2

theorem pn_history_reports_valid (past : List Op) (hp : ∀ op ∈ past, op.Valid) (b : Bytes) (hv : b.Valid) (m : PNMsg)
    (h : justifiedPN past b = some m) : m.Valid :=
  pn_reports_valid _ (pnAbs_of_bounded _ past hp) b hv m h

/-- one event of a polling channel: every reported message is valid and the stored bytes stay 7-bit values
    (`he` is `e.Valid`, written out) -/
theorem polling_event_valid (ch : Nat) (hc : ch < 16) (c : PChan) (hst : c.state.Bytes7) (e : PEv)
    (he : match e with | .cc _ cv _ => cv < 128 | _ => True) :
    (c.ev ch e).1.state.Bytes7 ∧
    (∀ m, (c.ev ch e).2.1 = some m → m.Valid) ∧ (∀ m, (c.ev ch e).2.2 = some m → m.Valid) := by
  cases e with
  | cc cn cv now =>
    have h := c.state.onCC_valid hst now ch cn cv he
    exact ⟨h.1, fun m hm => h.2.1 m hm hc, fun m hm => h.2.2 m hm hc⟩
  | poll now =>
    have h := c.poll_valid hst now ch
    exact ⟨h.1, fun m hm => h.2 m hm hc, fun m hm => nomatch hm⟩
  | reset => exact ⟨PState.default_bytes7, by simp [PChan.ev], by simp [PChan.ev]⟩

theorem polling_evs_valid (ch : Nat) (hc : ch < 16) (es : List PEv) :
    ∀ (c : PChan), c.state.Bytes7 →
    (∀ e ∈ es, match e with | .cc _ cv _ => cv < 128 | _ => True) →
    ∀ o ∈ (c.evs ch es).2, (∀ m, o.1 = some m → m.Valid) ∧ (∀ m, o.2 = some m → m.Valid) := by
  induction es with
  | nil => intro c _ _ o ho; simp [PChan.evs] at ho
  | cons e es ih =>
    intro c hst he o ho
    have h1 := polling_event_valid ch hc c hst e (he e (List.mem_cons_self ..))
    simp only [PChan.evs, List.mem_cons] at ho
    rcases ho with ho | ho
    · subst ho; exact h1.2
    · exact ih _ h1.1 (fun e' he' => he e' (List.mem_cons_of_mem _ he')) o ho

/-- any sequence of events from a new channel: every reported message is valid -/
theorem polling_reports_valid (ch timeout : Nat) (hc : ch < 16) (es : List PEv)
    (he : ∀ e ∈ es, match e with | .cc _ cv _ => cv < 128 | _ => True) :
    ∀ o ∈ (({ timeout := timeout } : PChan).evs ch es).2, (∀ m, o.1 = some m → m.Valid) ∧ (∀ m, o.2 = some m → m.Valid) :=
  polling_evs_valid ch hc es _ PState.default_bytes7 he

end Midi.Props.C04S
