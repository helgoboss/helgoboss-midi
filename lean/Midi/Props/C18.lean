/-
C18  Real-time safety — the PANIC half as theorems (the allocation half cannot be expressed by a functional model; it
is monitored on the real code by a counting allocator, see DESIGN.md).
Every potentially panicking source site is an explicit `.error <site>` in the model; these theorems collect, per API
group, that valid input never reaches one, and that the only reachable panics are the documented ones.
-/
import Midi.Props.C03
import Midi.Props.C04
import Midi.Props.C06
import Midi.Props.C07
import Midi.Props.C09
import Midi.Proofs.PN
import Midi.Proofs.Polling
namespace Midi.Props.C18
open Midi Midi.Spec

/-- messages: for any lawful implementor with valid bytes no accessor, classification or conversion panics -/
theorem no_panic_messages {α} (I : Impl α) (x : α) (hl : I.LawfulAt x) (hv : (bytesOf I x).Valid) :
    C03.accessors I x = C03.specAccessors (bytesOf I x) ∧
    (∃ r, toOther I rawFactory x = .ok r) ∧ (∃ m, toOther I structuredFactory x = .ok m) := by
  obtain ⟨⟨r, hr, _⟩, ⟨m, hm, _⟩⟩ := C03.conversions_commute I x hl hv
  exact ⟨C03.accessors_eq_spec I x hl hv, ⟨r, hr⟩, ⟨m, hm⟩⟩

/-- the internal sites are dead for every byte value: `extract_type_from_status_byte` never trips its debug
    assertion, the quarter-frame decoder never reaches `unreachable!` / `expect("unknown time code type")`, the
    LSB controller computation never overflows -/
theorem internal_sites_dead :
    (∀ s : Fin 256, ∃ r, extractType s.val = .ok r) ∧ (∀ d : Fin 128, ∃ f, QFrame.ofU7 d.val = .ok f) ∧
    (∀ n : Fin 128, ∃ r, cnLsbOf n.val = .ok r) :=
  ⟨fun s => ⟨_, extractType_spec s.val s.isLt⟩, fun d => ⟨_, ofU7_spec d.val d.isLt⟩, fun n => ⟨_, cnLsbOf_eq n.val⟩⟩

/-- constructors with valid arguments never panic (Raw and Structured) -/
theorem no_panic_constructors (k : Ctor) (a b c : Nat) (h : k.ArgsValid a b c) :
    (∃ m, modelNamed rawFactory k a b c = .ok m) ∧ (∃ m, modelNamed structuredFactory k a b c = .ok m) :=
  ⟨⟨_, C06.named_raw k a b c h⟩, ⟨_, C06.named_structured k a b c h⟩⟩

/-- encoders never panic on valid messages -/
theorem no_panic_encoders (m14 : CC14Msg) (h14 : m14.Valid) (mp : PNMsg) (hp : mp.Valid) (order : ByteOrder) :
    (∃ r, m14.toShortMessages rawFactory = .ok r) ∧ (∃ r, m14.toShortMessages structuredFactory = .ok r) ∧
    (∃ r, mp.toShortMessages rawFactory order = .ok r) ∧ (∃ r, mp.toShortMessages structuredFactory order = .ok r) :=
  ⟨⟨_, (C07.encode m14 h14).1⟩, ⟨_, (C07.encode m14 h14).2.1⟩, ⟨_, C09.encode_raw mp hp order⟩,
   ⟨_, C09.encode_structured mp hp order⟩⟩

/-- scanners never panic, for ANY history of valid operations (feed of any valid message, poll of any channel,
    reset, time steps): the `expect("impossible")`, the array index and the internal `new` assertion are dead -/
theorem no_panic_scanners (ops : List Op) (hv : ∀ op ∈ ops, op.Valid) (tops : List TOp) (htv : ∀ op ∈ tops, op.Valid)
    (now timeout : Nat) :
    (∃ r, ccRun CCScanner.new ops = .ok r) ∧ (∃ r, pnRun PNScanner.new ops = .ok r) ∧
    (∃ r, pRun now (PScanner.new timeout) tops = .ok r) := by
  obtain ⟨s, h, _⟩ := cc_run CCScanner.new [] ccRel_new ops hv
  obtain ⟨s', h', _⟩ := pn_run PNScanner.new [] pnRel_new ops hv
  obtain ⟨n, s'', o, h'', _⟩ := p_run_channel 0 (by decide) now (PScanner.new timeout) tops htv
  exact ⟨⟨_, h⟩, ⟨_, h'⟩, ⟨_, h''⟩⟩

/-- panics occur only where documented, and exactly under the documented condition:
    out-of-range arguments to checked constructors (`new`) and shorthand helpers, an MSB controller number above 31
    for a 14-bit Control Change message, a wrong type category for the generic factory constructors -/
theorem documented_panics_only :
    (∀ cfg ∈ allConfigs, ∀ (T : NewtypeDef) (v : Nat), newModel cfg T v = .error .newAssert ↔ T.max < v) ∧
    (∀ ch n v, n < 128 → (CC14Msg.new ch n v = .error .cc14MsbAssert ↔ 32 ≤ n) ∧ (n < 32 → CC14Msg.new ch n v = .ok ⟨ch, n, v⟩)) ∧
    (∀ (t : MsgType) (ch a b : Nat), ch < 16 →
      (channelMessage rawFactory t ch a b = .error .categoryAssert ↔ specCategory t.toU8 ≠ 0) ∧
      (systemCommonMessage rawFactory t a b = .error .categoryAssert ↔ specCategory t.toU8 ≠ 1) ∧
      (systemRealTimeMessage rawFactory t = .error .categoryAssert ↔ specCategory t.toU8 ≠ 2)) ∧
    (∀ x y z, tuNoteOn x y z = .error .testUtilExpect ↔ ¬ (x ≤ 15 ∧ y ≤ 127 ∧ z ≤ 127)) := by
  refine ⟨?_, ?_, ?_, ?_⟩
  · intro cfg hc T v; exact (C04.new_checked' cfg hc T v).2
  · intro ch n v hn
    rw [C07.new_ok_iff ch n v hn]
    refine ⟨?_, fun h => if_pos h⟩
    split
    · exact ⟨nofun, fun _ => by omega⟩
    · exact ⟨fun _ => by omega, fun _ => rfl⟩
  · intro t ch a b hc
    obtain ⟨h0, h1, h2, -⟩ := superType_iff_specCategory t
    simp only [channelMessage, systemCommonMessage, systemRealTimeMessage, rawFactory, ne_eq, h0, h1, h2]
    refine ⟨?_, ?_, ?_⟩ <;> split <;> simp only [*, reduceCtorEq, not_false_eq_true]
  · intro x y z
    rw [(C06.test_util_shorthands x y z).1]
    split
    · next h =>
      have hv : Ctor.noteOn.ArgsValid x y z := by show x < 16 ∧ y < 128 ∧ z < 128; omega
      rw [C06.named_raw .noteOn x y z hv]
      exact ⟨nofun, fun hn => absurd h hn⟩
    · next h => exact ⟨fun _ => h, fun _ => rfl⟩

end Midi.Props.C18
