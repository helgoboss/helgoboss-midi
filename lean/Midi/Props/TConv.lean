/-
Property theorems restated for the conversion macros AS TRANSLATED from newtype_macros.rs by tools/rs2lean.py
(Midi/Gen/Macros, regenerated on every run; the macro metavariables $from / $into / $max are parameters) applied to
the conversion table regenerated by tools/extract.py from the macro invocations.
-/
import Midi.Proofs.GenMacros
import Midi.Props.C04
import Midi.Props.C05

namespace Midi.Props.TConv
open Midi Midi.Spec Midi.Gen Midi.GenTie

/-- C05 for the translated macro bodies: for every implemented conversion (every row of the regenerated table), every
    pointer width and EVERY value of the source type, the translated macro body yields the mathematical value, and a
    fallible one fails exactly out of range -/
theorem conversions_faithful (pw : Nat) (hpw : pw ∈ pointerWidths) (e : ConvEntry) (he : e ∈ Gen.conversions)
    (x : Int) (hx : inTy pw e.src x) : MAC.translatedConv pw e x = convSpec pw e x := by
  rw [← MAC.conv_eq]; exact C05.conversions_faithful pw hpw e he x hx

/-- C04 for the translated macro bodies: no conversion into a restricted type yields an out-of-range value -/
theorem conversions_in_range (pw : Nat) (hpw : pw ∈ pointerWidths) (e : ConvEntry) (he : e ∈ Gen.conversions)
    (x : Int) (hx : inTy pw e.src x) (v : Int) (hv : MAC.translatedConv pw e x = some v) : inTy pw e.dst v := by
  rw [← MAC.conv_eq] at hv; exact C04.conversions_in_range pw hpw e he x hx v hv

/-- C05 for the translated `FromStr`: accepted exactly the unsigned decimal numerals (optional '+', any length, leading
    zeros included) whose value is in range — for ALL strings -/
theorem parse_iff (pw : Nat) (hpw : pw ∈ pointerWidths) (T : NewtypeDef) (hT : T ∈ Gen.newtypes) (s : List Char) (v : Nat) :
    Macros.newtype.from_str pw T s = some (v : Int) ↔ IsNumeral s ∧ numeralValue s = v ∧ v ≤ T.max := by
  rw [MAC.from_str, ← C05.parse_iff pw hpw T hT s v]
  cases parseNewtype pw T s with
  | none => simp
  | some w => simp; exact Int.ofNat_inj

/-- the translated `is_valid` is the range predicate -/
theorem is_valid_iff (T : NewtypeDef) (x : Int) : Macros.newtype.is_valid T.max x = true ↔ 0 ≤ x ∧ x ≤ (T.max : Int) := by
  rw [MAC.is_valid]; exact T.isValid_iff x

end Midi.Props.TConv
