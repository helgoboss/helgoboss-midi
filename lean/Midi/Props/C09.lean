/-
C09  (N)RPN messages encode to the well-formed Control Change sequence.
-/
import Midi.Proofs.Ctors
namespace Midi.Props.C09
open Midi Midi.Spec

/-- the eight public constructors build exactly what they describe; 7-bit values are at most 127,
    14-bit implies data entry (arguments: channel < 16, number < 16384, value within U7 resp. U14) -/
theorem constructors (i ch n v : Nat) (hi : i < 8) (hc : ch < 16) (hn : n < 16384)
    (hv : if i = 1 ∨ i = 5 then v < 16384 else v < 128) :
    let m := PNMsg.ctor i ch n v
    m.Valid ∧ m.channel = ch ∧ m.number = n ∧ m.value = v ∧
    m.isRegistered = decide (4 ≤ i) ∧ m.is14Bit = decide (i = 1 ∨ i = 5) ∧
    m.dataType = (if i = 2 ∨ i = 6 then .dataDecrement else if i = 3 ∨ i = 7 then .dataIncrement else .dataEntry) ∧
    (m.is14Bit = false → m.value ≤ 127) ∧ (m.is14Bit = true → m.dataType = .dataEntry) := by
  have : i = 0 ∨ i = 1 ∨ i = 2 ∨ i = 3 ∨ i = 4 ∨ i = 5 ∨ i = 6 ∨ i = 7 := by omega
  rcases this with rfl | rfl | rfl | rfl | rfl | rfl | rfl | rfl <;>
    simp [PNMsg.ctor, PNMsg.sevenBit, PNMsg.fourteenBit, PNMsg.Valid] at hv ⊢ <;> omega

/-- every valid message is built by one of the public constructors -/
theorem valid_is_constructed (m : PNMsg) (hm : m.Valid) : ∃ i, i < 8 ∧ PNMsg.ctor i m.channel m.number m.value = m := by
  obtain ⟨c, n, v, r, b, d⟩ := m
  obtain ⟨_, _, h⟩ := hm
  cases r <;> cases b <;> cases d <;> simp at h
  · exact ⟨0, by omega, rfl⟩
  · exact ⟨3, by omega, rfl⟩
  · exact ⟨2, by omega, rfl⟩
  · exact ⟨1, by omega, rfl⟩
  · exact ⟨4, by omega, rfl⟩
  · exact ⟨7, by omega, rfl⟩
  · exact ⟨6, by omega, rfl⟩
  · exact ⟨5, by omega, rfl⟩

/-- encoding to RawShortMessages: number MSB on 101/99, number LSB on 100/98, then the value bytes in the
    requested order (or 96/97 for increment/decrement); no panic (slot index ≤ 3) -/
theorem encode_raw (m : PNMsg) (hm : m.Valid) (order : ByteOrder) :
    m.toShortMessages rawFactory order = .ok (specPNEncoding m order) := by
  rw [PNMsg.toShortMessages_ok rawFactory id m hm order (fun _ _ => rfl)]
  simp only [Option.map_id_fun, List.map_id_fun, id]

/-- the same through StructuredShortMessage -/
theorem encode_structured (m : PNMsg) (hm : m.Valid) (order : ByteOrder) :
    m.toShortMessages structuredFactory order =
      .ok ((specPNEncoding m order).map (Option.map (fun b => SMsg.controlChange m.channel b.d1 b.d2))) :=
  PNMsg.toShortMessages_ok structuredFactory _ m hm order fun b hb =>
    have h := specPNEncoding_cc m hm order b hb
    structured_ofBytes_cc b h.1 m.channel hm.1 h.2

/-- exactly the 14-bit messages fill all four slots; the array conversion equals MSB-first encoding; every
    encoded message is a valid Control Change on the message's channel -/
theorem slots (m : PNMsg) (hm : m.Valid) (order : ByteOrder) :
    (specPNEncoding m order).length = 4 ∧
    (((specPNEncoding m order)[3]?).join.isSome = m.is14Bit) ∧
    (∀ {α} (F : Factory α), m.toArray F = m.toShortMessages F .msbFirst) ∧
    (∀ b, some b ∈ specPNEncoding m order → b.Valid ∧ b.status = 176 + m.channel) := by
  refine ⟨?_, ?_, fun F => rfl, specPNEncoding_cc m hm order⟩
  · cases hi : m.is14Bit <;> cases hd : m.dataType <;> cases order <;> simp [specPNEncoding, hi, hd]
  · obtain ⟨-, -, h⟩ := hm
    cases hi : m.is14Bit <;> cases hd : m.dataType <;> cases order <;> simp [specPNEncoding, hi, hd] at h ⊢

/-- the controller numbers used are the ones named in the source (regenerated constants) -/
theorem controller_constants :
    Gen.CN.REGISTERED_PARAMETER_NUMBER_MSB = 101 ∧ Gen.CN.NON_REGISTERED_PARAMETER_NUMBER_MSB = 99 ∧
    Gen.CN.REGISTERED_PARAMETER_NUMBER_LSB = 100 ∧ Gen.CN.NON_REGISTERED_PARAMETER_NUMBER_LSB = 98 ∧
    Gen.CN.DATA_ENTRY_MSB = 6 ∧ Gen.CN.DATA_ENTRY_MSB_LSB = 38 ∧ Gen.CN.DATA_INCREMENT = 96 ∧
    Gen.CN.DATA_DECREMENT = 97 := by decide

/-! non-vacuity -/
example : (PNMsg.ctor 5 15 16383 16383).Valid ∧
    specPNEncoding (PNMsg.ctor 5 15 16383 16383) .lsbFirst =
      [some ⟨191, 101, 127⟩, some ⟨191, 100, 127⟩, some ⟨191, 38, 127⟩, some ⟨191, 6, 127⟩] := by decide

end Midi.Props.C09
