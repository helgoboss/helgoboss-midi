/-
C04  Restricted integer types never hold an out-of-range value.
The conversion, feature and constant tables (`Gen.*`) are regenerated from /repo's source on every run; these
theorems are re-checked against them.
-/
import Midi.Proofs.Conv
import Midi.Proofs.Parse
import Midi.Props.C01
import Midi.Gen.ControllerNumbers
namespace Midi.Props.C04
open Midi Midi.Spec

/-- every `impl_from_*!` / `impl_try_from_*!` instantiation in the source passes the per-row criterion, on
    every pointer width -/
theorem table_ok : ∀ pw ∈ pointerWidths, Gen.conversions.all (entryOk pw) = true := by decide +kernel

theorem pw_cases {pw : Nat} (h : pw ∈ pointerWidths) : pw = 16 ∨ pw = 32 ∨ pw = 64 := by
  simpa [pointerWidths] using h

/-- every row of the conversion table is numerically faithful, on every pointer width -/
theorem table_faithful (pw : Nat) (hpw : pw ∈ pointerWidths) (e : ConvEntry) (he : e ∈ Gen.conversions) :
    Faithful pw e :=
  entryOk_sound pw (pw_cases hpw) e (List.all_eq_true.mp (table_ok pw hpw) e he)

/-- No conversion into a restricted type can produce an out-of-range value: for every implemented conversion,
    every pointer width and EVERY value of the source type (including all of i128 / u128). -/
theorem conversions_in_range (pw : Nat) (hpw : pw ∈ pointerWidths) (e : ConvEntry) (he : e ∈ Gen.conversions)
    (x : Int) (hx : inTy pw e.src x) (v : Int) (hv : convModel pw e x = some v) : inTy pw e.dst v :=
  (table_faithful pw hpw e he x hx).2 v hv

/-- fallible conversions fail exactly for out-of-range input -/
theorem tryFrom_fails_iff (pw : Nat) (hpw : pw ∈ pointerWidths) (e : ConvEntry) (he : e ∈ Gen.conversions)
    (ht : e.kind.isTry = true) (x : Int) (hx : inTy pw e.src x) :
    (convModel pw e x = none ↔ ¬ inTy pw e.dst x) ∧ (∀ v, convModel pw e x = some v → v = x) := by
  rw [(table_faithful pw hpw e he x hx).1]
  refine ⟨⟨fun hn hd => ?_, fun hd => ?_⟩, fun v hv => (convSpec_some hv).1⟩
  · rw [convSpec_of_inTy hd] at hn; cases hn
  · cases hc : convSpec pw e x with
    | none => rfl
    | some v => exact absurd ((convSpec_some hc).2 ht) hd

/-- parsing never yields an out-of-range value — for ALL strings -/
theorem parse_in_range (pw : Nat) (T : NewtypeDef) (s : List Char) (v : Nat)
    (h : parseNewtype pw T s = some v) : v ≤ T.max := by
  rw [parseNewtype_eq_filter, Option.filter_eq_some_iff, T.isValid_iff] at h
  omega

/-- A block of `new` that asserts `is_valid(value)` survives cfg-stripping in every feature configuration a build can
    select (every subset of the declared features and optional dependencies) ... -/
theorem new_checked : ∀ cfg ∈ allConfigs, newAssertActive cfg = true := by decide

/-- ... so the checked constructor panics exactly for out-of-range input -/
theorem new_checked' (cfg : Config) (hc : cfg ∈ allConfigs) (T : NewtypeDef) (v : Nat) :
    (newModel cfg T v = .ok v ↔ v ≤ T.max) ∧ (newModel cfg T v = .error .newAssert ↔ T.max < v) := by
  unfold newModel
  rw [new_checked cfg hc, Bool.true_and, T.isValid_natCast]
  by_cases h : v ≤ T.max <;> simp [h] <;> omega

/-- MIN, MAX, Default and every predefined controller number are in range; payloads fit their representation -/
theorem consts_in_range :
    (∀ T ∈ Gen.newtypes, T.minConst ≤ T.max ∧ T.maxConst ≤ T.max ∧ T.default ≤ T.max ∧
      ∀ pw ∈ pointerWidths, (T.max : Int) ≤ T.repr.maxVal pw) ∧
    (∀ n ∈ Gen.controllerNumberValues, n ≤ 127) :=
  ⟨by decide +kernel, by decide +kernel⟩

/-- fields and data bytes of every message obtained from valid bytes are in range -/
theorem message_fields_in_range (b : Bytes) (hv : b.Valid) :
    (specStructured b).Valid ∧ (canon b).Valid ∧
    (∀ c, specChannel b.status = some c → c < 16) ∧ (∀ k, specKey b = some k → k < 128) ∧
    (∀ k, specVelocity b = some k → k < 128) ∧ (∀ k, specControllerNumber b = some k → k < 128) ∧
    (∀ k, specControlValue b = some k → k < 128) ∧ (∀ k, specProgramNumber b = some k → k < 128) ∧
    (∀ k, specPressure b = some k → k < 128) ∧ (∀ k, specPitchBend b = some k → k < 16384) := by
  have hs := specStructured_valid b hv
  have hc := (C01.canon_idem b hv).2.1
  obtain ⟨h1, h2, h3, h4⟩ := hv
  refine ⟨hs, hc, ?_, ?_, ?_, ?_, ?_, ?_, ?_, ?_⟩
  all_goals
    intro k hk
    simp only [specChannel, specKey, specVelocity, specControllerNumber, specControlValue, specProgramNumber,
      specPressure, specPitchBend] at hk
    (repeat' split at hk) <;> cases hk <;> omega

/-! non-vacuity -/
example : Gen.conversions.length > 100 ∧ allConfigs.length ≥ 2 ∧ Gen.newtypes.length = 6 := by decide +kernel
example : inTy 64 (.prim .i128) (-170141183460469231731687303715884105728) := by
  simp [inTy, tyLo, tyHi, PrimTy.minVal, PrimTy.maxVal, PrimTy.signed, PrimTy.bits]

end Midi.Props.C04
