/-
C03 for the scanners: code written against the trait cannot tell which representation it was handed — in particular the
three scanners, which take `&impl ShortMessage`.
-/
import Midi.Proofs.ImplIndep
namespace Midi.Props.C03S
open Midi Midi.Spec

/-- For ANY lawful implementor of the trait (RawShortMessage, StructuredShortMessage, a third-party type), all three
    scanners behave exactly as on the RawShortMessage with the same bytes: same new state, same reports.  Hence
    every scanner theorem stated for RawShortMessage input (C07–C17) holds for every implementation. -/
theorem scanners_cannot_tell {α} (I : Impl α) (x : α) (hl : I.LawfulAt x) :
    (∀ s : CCScanner, s.feed I x = s.feed rawImpl (bytesOf I x)) ∧
    (∀ s : PNScanner, s.feed I x = s.feed rawImpl (bytesOf I x)) ∧
    (∀ (now : Nat) (s : PScanner), s.feed I now x = s.feed rawImpl now (bytesOf I x)) :=
  scanners_feed_congr I x rawImpl (bytesOf I x) rfl (toStructured_bytesOf I x hl)

end Midi.Props.C03S
