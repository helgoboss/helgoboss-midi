/-
C14  Polling scanner never fabricates, duplicates or loses data entries.
The property is the executable trace monitor `Mon` of Midi/Spec/Monitor.lean (attribution of every reported message
to bytes actually received, nothing before a complete number, no controller-6 byte reported twice / as 7-bit after
being part of a 14-bit value, every controller-6 byte received with a complete number reported no later than the next
contributing message or the first poll after the timeout, shape of two-message results).  The theorem: the monitor
accepts EVERY trace of the model — any finite sequence of events of a channel (feeds incl. malformed and mixed
registered / non-registered traffic, polls at any times, resets), from a new scanner with any timeout.
-/
import Midi.Proofs.Polling
import Midi.Proofs.Monitor
import Midi.Proofs.PollRelabel
namespace Midi.Props.C14
open Midi Midi.Spec

/-- the trace of one channel's sub-scanner over a list of events: each event with what the call returned -/
def traceOf (ch : Nat) (c : PChan) : List PEv → List (PEv × POut)
  | [] => []
  | e :: es => (e, (c.ev ch e).2) :: traceOf ch (c.ev ch e).1 es

/-- the bytes of a Control Change are 7-bit values (what a valid short message carries); nothing is asked of the
    times, which may even run backwards -/
def EvValid : PEv → Prop
  | .cc cn cv _ => cn < 128 ∧ cv < 128
  | _ => True

/-- the monitor remembers exactly the complete number of the model state; its bytes are 7-bit -/
def NumOk (m : Mon) (ns : NumberState) : Prop :=
  m.hi = some ns.msb ∧ m.lo = some ns.lsb ∧ m.reg = ns.isRegistered ∧ ns.msb < 128 ∧ ns.lsb < 128

/-- simulation relation: what the monitor remembers (number bytes, latest controller-6 / controller-38 values with
    their marks, owed byte) as determined by the phase of the model's per-channel state -/
def MInv (m : Mon) : PState → Prop
  | .waitingForNumber none _ _ => m.hi = none ∧ m.lo = none ∧ m.owed = none
  | .waitingForNumber (some b) reg true => m.hi = some b ∧ m.lo = none ∧ m.reg = reg ∧ m.owed = none ∧ b < 128
  | .waitingForNumber (some b) reg false => m.hi = none ∧ m.lo = some b ∧ m.reg = reg ∧ m.owed = none ∧ b < 128
  | .waitingForFirstValue ns => NumOk m ns ∧ m.owed = none
  | .valuePending ns arr f true => NumOk m ns ∧ m.cc6 = some (f, false, false) ∧ m.owed = some arr ∧ f < 128
  | .valuePending ns _ f false => NumOk m ns ∧ m.cc38 = some f ∧ m.owed = none ∧ f < 128
  | .fourteenComplete ns a b => NumOk m ns ∧ (∃ r, m.cc6 = some (a, r, true)) ∧ m.cc38 = some b ∧ m.owed = none ∧ a < 128 ∧ b < 128

theorem numOk_numberOf {m : Mon} {ns : NumberState} (h : NumOk m ns) : m.numberOf = some ns.number := by
  simp [Mon.numberOf, h.1, h.2.1, NumberState.number, build14_eq' _ _ h.2.2.2.1 h.2.2.2.2]

theorem numOk_reg {m : Mon} {ns : NumberState} (h : NumOk m ns) : m.reg = ns.isRegistered := h.2.2.1

/-- a byte is owed exactly while a data entry MSB is pending -/
theorem mInv_owed {m : Mon} : ∀ {st : PState}, MInv m st →
    m.owed = match st with | .valuePending _ arr _ true => some arr | _ => none := by
  intro st h
  rcases st with ⟨_ | b, r, _ | _⟩ | ns | ⟨ns, arr, f, _ | _⟩ | ⟨ns, a, b⟩ <;> simp only [MInv] at h <;> simp [h]

/-- one Control Change: the monitor accepts what the model returned, and the relation is re-established.  By the
    `process*` function the controller selects and the phase of the channel; each case names the equation for the
    monitor's step and leaves the new relation to `simp`. -/
theorem step_cc (ch timeout : Nat) (m : Mon) (st : PState) (cn cv now : Nat) (hcv : cv < 128) (h : MInv m st) :
    ∃ m', m.step ch timeout (.cc cn cv now) (st.onCC now ch cn cv).2 = some m' ∧ MInv m' (st.onCC now ch cn cv).1 := by
  refine PState.onCC_cases st now ch cn cv
    (P := fun r => ∃ m', m.step ch timeout (.cc cn cv now) r.2 = some m' ∧ MInv m' r.1) ?_ ?_ ?_ ?_ ?_
  · rintro reg msb rfl
    rcases st with ⟨_ | b, r, _ | _⟩ | ns | ⟨ns, arr, f, _ | _⟩ | ⟨ns, a, b⟩ <;> have ho := mInv_owed h <;>
      simp only [MInv, NumOk] at h
    case valuePending.true =>
      cases msb <;> exact ⟨_, Mon.step_number_flush (numOk_numberOf h.1) (numOk_reg h.1) h.2.1, by
        simp [PState.processNumberByte, MInv, NumOk, h, hcv]⟩
    all_goals cases msb <;> exact ⟨_, Mon.step_number ho, by simp [PState.processNumberByte, MInv, NumOk, h, hcv]⟩
  · rintro rfl
    rcases st with ⟨_ | b, r, _ | _⟩ | ns | ⟨ns, arr, f, _ | _⟩ | ⟨ns, a, b⟩ <;> have ho := mInv_owed h <;>
      simp only [MInv, NumOk] at h
    case valuePending.true =>
      simp only [PState.processValueLsb, completePending, if_true, build14_eq' f cv h.2.2.2 hcv]
      exact ⟨_, Mon.step_lsb_14 hcv (numOk_numberOf h.1) (numOk_reg h.1) h.2.1, by simp [MInv, NumOk, h, hcv]⟩
    case fourteenComplete =>
      obtain ⟨hN, ⟨x, h6⟩, h38, -, ha, hb⟩ := h
      simp only [PState.processValueLsb, build14_eq' a cv ha hcv]
      exact ⟨_, Mon.step_lsb_14 hcv (numOk_numberOf hN) (numOk_reg hN) h6, by simp [MInv, NumOk, hN, hcv, ha]⟩
    all_goals exact ⟨_, Mon.step_quiet rfl ho, by simp [PState.processValueLsb, MInv, NumOk, h, hcv]⟩
  · rintro rfl
    rcases st with ⟨_ | b, r, _ | _⟩ | ns | ⟨ns, arr, f, _ | _⟩ | ⟨ns, a, b⟩ <;> have ho := mInv_owed h <;>
      simp only [MInv, NumOk] at h
    case valuePending.true =>
      exact ⟨_, Mon.step_flush rfl (numOk_numberOf h.1) (numOk_reg h.1) h.2.1, by
        simp [PState.processValueMsb, MInv, NumOk, h, hcv]⟩
    case valuePending.false =>
      simp only [PState.processValueMsb, completePending, Bool.false_eq_true, if_false,
        build14_eq' cv f hcv h.2.2.2]
      exact ⟨_, Mon.step_msb_14 (numOk_numberOf h.1) (numOk_reg h.1) ho h.2.1, by simp [MInv, NumOk, h, hcv]⟩
    all_goals
      exact ⟨_, Mon.step_quiet rfl ho, by simp [PState.processValueMsb, MInv, NumOk, Mon.numberOf, h, hcv]⟩
  · rintro inc rfl
    rcases st with ⟨_ | b, r, _ | _⟩ | ns | ⟨ns, arr, f, _ | _⟩ | ⟨ns, a, b⟩ <;> have ho := mInv_owed h <;>
      simp only [MInv, NumOk] at h
    case waitingForFirstValue | fourteenComplete =>
      exact ⟨_, Mon.step_incDec (numOk_numberOf h.1) (numOk_reg h.1) ho, by simp [PState.processValueIncDec, MInv, NumOk, h]⟩
    case valuePending.true =>
      exact ⟨_, Mon.step_incDec_flush (numOk_numberOf h.1) (numOk_reg h.1) h.2.1, by
        simp [PState.processValueIncDec, MInv, NumOk, h]⟩
    all_goals exact ⟨m, Mon.step_incDec_quiet ho, by simp [PState.processValueIncDec, MInv, NumOk, h]⟩
  · intro hn
    exact ⟨m, by simp [Mon.step, isContributingCn, outMsgs]; omega, h⟩

/-- a poll: nothing happens while no owed byte is late, a late MSB is reported (and no longer owed), a late LSB dropped -/
theorem step_poll (ch : Nat) (m : Mon) (c : PChan) (now : Nat) (h : MInv m c.state) :
    ∃ m', m.step ch c.timeout (.poll now) ((c.poll now ch).2, none) = some m' ∧ MInv m' (c.poll now ch).1.state := by
  have ho := mInv_owed h
  rcases c.poll_cases now ch with ⟨e, hearly⟩ | ⟨ns, arr, f, k, hs, -, e⟩ <;> rw [e]
  · refine ⟨m, Mon.step_poll_quiet ch _ m now fun arr ha => ?_, h⟩
    rw [ha] at ho
    split at ho
    · cases ho; exact hearly _ _ _ _ ‹_›
    · cases ho
  · rw [hs] at h ho
    cases k <;> simp only [MInv] at h
    · exact ⟨m, Mon.step_poll_quiet ch _ m now (fun arr ha => by rw [ho] at ha; cases ha), h.1, h.2.2.1⟩
    · exact ⟨_, Mon.step_poll_flush (numOk_numberOf h.1) (numOk_reg h.1) h.2.1, h.1, rfl⟩

theorem step_ev (ch : Nat) (m : Mon) (c : PChan) (e : PEv) (hv : EvValid e) (h : MInv m c.state) :
    ∃ m', m.step ch c.timeout e (c.ev ch e).2 = some m' ∧ MInv m' (c.ev ch e).1.state := by
  cases e with
  | cc cn cv now => exact step_cc ch c.timeout m c.state cn cv now hv.2 h
  | poll now => exact step_poll ch m c now h
  | reset => exact ⟨{}, by simp [Mon.step, PChan.ev, outMsgs], by simp [PChan.ev, PState.default, MInv]⟩

theorem accepts_of_inv (ch : Nat) (es : List PEv) (hv : ∀ e ∈ es, EvValid e) :
    ∀ (m : Mon) (c : PChan), MInv m c.state → m.accepts ch c.timeout (traceOf ch c es) = true := by
  induction es with
  | nil => intros; rfl
  | cons e es ih =>
    intro m c h
    obtain ⟨m', h1, h2⟩ := step_ev ch m c e (hv e List.mem_cons_self) h
    simp only [traceOf, Mon.accepts, h1]
    have := ih (fun e he => hv e (List.mem_cons_of_mem _ he)) m' _ h2
    rwa [ev_timeout] at this

/-- For every channel, timeout and every finite sequence of events, the monitor accepts the trace of
    the model started as a new scanner's channel. -/
theorem monitor_accepts (ch timeout : Nat) (es : List PEv) (hv : ∀ e ∈ es, EvValid e) :
    ({} : Mon).accepts ch timeout (traceOf ch { timeout := timeout } es) = true :=
  accepts_of_inv ch es hv {} { timeout := timeout } (by simp [PState.default, MInv])

theorem traceOf_eq_zip (ch : Nat) (c : PChan) (es : List PEv) : traceOf ch c es = es.zip (c.evs ch es).2 := by
  induction es generalizing c with
  | nil => rfl
  | cons e es ih => simp [traceOf, PChan.evs, ih]

theorem project_valid (c now : Nat) (ops : List TOp) (hv : ∀ op ∈ ops, op.Valid) : ∀ e ∈ project c now ops, EvValid e := by
  intro e he
  cases e with
  | cc cn cv t => exact (hv _ (project_cc_origin c now ops cn cv t he)).2.2
  | _ => trivial

/-- C14 for the WHOLE scanner: under any interleaving of valid feeds on all 16 channels, polls, resets and time steps,
    started from `new(timeout)` at any time, the scanner never panics and for every channel the monitor accepts the
    sequence of (event of that channel, what the call returned) -/
theorem monitor_accepts_scanner (c : Nat) (hc : c < 16) (now timeout : Nat) (ops : List TOp) (hv : ∀ op ∈ ops, op.Valid) :
    ∃ n s outs, pRun now (PScanner.new timeout) ops = .ok ((n, s), outs) ∧
      ({} : Mon).accepts c timeout ((project c now ops).zip (outputsOn c now ops outs)) = true := by
  obtain ⟨n, s, outs, h, _, ho⟩ := p_run_new_channel c hc now timeout ops hv
  refine ⟨n, s, outs, h, ?_⟩
  rw [ho, ← traceOf_eq_zip]
  exact monitor_accepts c timeout _ (project_valid c now ops hv)

/-! ### data independence (justifies the value abstraction of the polling scanner's state-space exploration) -/

/-- Data independence of the polling scanner's per-channel machine, for EVERY finite sequence of events
    (Control Changes with time stamps, polls at any times, resets): relabelling all value bytes by `f` relabels
    the final state and every reported message, and changes nothing else - in particular not WHEN something is
    reported or how many messages there are. -/
theorem data_independent (f : Nat → Nat) (hf : ∀ v, v < 128 → f v < 128) (ch : Nat) (es : List PEv)
    (hv : ∀ e ∈ es, e.Valid) (c : PChan) (hs : c.state.Bytes7) :
    (c.relabel f).evs ch (es.map (relabelEv f)) = (((c.evs ch es).1).relabel f, (c.evs ch es).2.map (relabelPOut f)) := by
  induction es generalizing c with
  | nil => rfl
  | cons e es ih =>
    obtain ⟨h1, h2⟩ := ev_relabel f hf ch c hs e (hv e (List.mem_cons_self ..))
    simp only [List.map_cons, PChan.evs, h1, ih (fun x hx => hv x (List.mem_cons_of_mem _ hx)) _ h2]

/-! non-vacuity: NRPN 9/4 selected, data entry MSB 33 fed at time 5, polled at time 9 with timeout 3; every value
    collapsed to `v % 2` -/
example : (({ timeout := 3 } : PChan).evs 5 ([.cc 99 9 0, .cc 98 4 1, .cc 6 33 5, .poll 9].map (relabelEv (· % 2)))).2
    = [(none, none), (none, none), (none, none), (some ⟨5, 128, 1, false, false, .dataEntry⟩, none)] := by decide

end Midi.Props.C14
