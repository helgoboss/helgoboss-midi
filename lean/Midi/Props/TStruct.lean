/-
Property theorems restated for the code AS TRANSLATED from the Rust source by tools/rs2lean.py:
`impl ShortMessageFactory for StructuredShortMessage` and `impl ShortMessage for StructuredShortMessage`
(structured_short_message.rs -> Midi/Gen/StructuredImpl) — regenerated from /repo's working tree on every run.
-/
import Midi.Proofs.GenStructured
import Midi.Props.C01

namespace Midi.Props.TStruct
open Midi Midi.Spec Midi.Gen Midi.GenTie
open Midi.Gen.StructuredImpl

/-- the three translated getters, as a byte triple -/
def bytes (m : SMsg) : Res Bytes := do
  let s ← StructuredShortMessage.status_byte m
  let a ← StructuredShortMessage.data_byte_1 m
  let b ← StructuredShortMessage.data_byte_2 m
  .ok ⟨s, a, b⟩

theorem bytes_eq (m : SMsg) : bytes m = .ok (bytesOf structuredImpl m) := by
  simp [bytes, ST.status_byte, ST.data_byte_1, ST.data_byte_2, bind, Except.bind, bytesOf, structuredImpl]

/-- C01 for the translated decoder: on every valid byte triple it never panics and yields the structured form the
    MIDI table prescribes; on an invalid status byte it panics with the documented message -/
theorem decode (b : Bytes) :
    (b.Valid → StructuredShortMessage.from_bytes_unchecked b = .ok (specStructured b)) ∧
    (b.status < 128 → StructuredShortMessage.from_bytes_unchecked b = .error .structuredInvalidStatus) := by
  rw [ST.from_bytes_unchecked]
  exact ⟨structured_ofBytes b, structured_ofBytes_invalid b⟩

/-- C01: a StructuredShortMessage returns the bytes it was made from with only the information-free parts zeroed
    (`canon`), through the translated decoder and the translated getters -/
theorem bytes_of_decoded (b : Bytes) (hv : b.Valid) :
    ∃ m, StructuredShortMessage.from_bytes_unchecked b = .ok m ∧ bytes m = .ok (canon b) := by
  refine ⟨specStructured b, (decode b).1 hv, ?_⟩
  rw [bytes_eq, (C01.structured_bytes b hv).2]

/-- C01: every valid StructuredShortMessage value is a fixed point of translated getters followed by the translated
    decoder, and of the translated `to_structured` override -/
theorem fixed_point (m : SMsg) (hm : m.Valid) :
    ∃ b, bytes m = .ok b ∧ b.Valid ∧ StructuredShortMessage.from_bytes_unchecked b = .ok m ∧
      StructuredShortMessage.to_structured m = .ok m := by
  have h := C01.structured_fixed m hm
  refine ⟨bytesOf structuredImpl m, bytes_eq m, h.1, ?_, rfl⟩
  rw [ST.from_bytes_unchecked]
  exact h.2.1

/-- C01 for the translated RawShortMessage impls: a RawShortMessage returns exactly the bytes it was made from -/
theorem raw_roundtrip (b : Bytes) :
    ∃ m, RawImpl.RawShortMessage.from_bytes_unchecked b = .ok m ∧
      RawImpl.RawShortMessage.status_byte m = .ok b.status ∧ RawImpl.RawShortMessage.data_byte_1 m = .ok b.d1 ∧
      RawImpl.RawShortMessage.data_byte_2 m = .ok b.d2 :=
  ⟨b, rfl, rfl, rfl, rfl⟩

end Midi.Props.TStruct
