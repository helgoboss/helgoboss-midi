/-
Property theorems restated for test_util.rs AS TRANSLATED by tools/rs2lean.py (Midi/Gen/TestUtil, regenerated from
/repo's working tree on every run).
-/
import Midi.Proofs.GenTestUtil
import Midi.Props.C06

namespace Midi.Props.TUtil
open Midi Midi.Spec Midi.Gen Midi.GenTie

/-- C06 for the translated shorthands: they panic exactly when an argument is out of range and otherwise build the
    same message as the factory constructor of that name -/
theorem shorthands (x y z : Nat) :
    TestUtil.note_on x y z = (if x ≤ 15 ∧ y ≤ 127 ∧ z ≤ 127 then modelNamed rawFactory .noteOn x y z else .error .testUtilExpect) ∧
    TestUtil.note_off x y z = (if x ≤ 15 ∧ y ≤ 127 ∧ z ≤ 127 then modelNamed rawFactory .noteOff x y z else .error .testUtilExpect) ∧
    TestUtil.control_change x y z = (if x ≤ 15 ∧ y ≤ 127 ∧ z ≤ 127 then modelNamed rawFactory .controlChange x y z else .error .testUtilExpect) ∧
    TestUtil.polyphonic_key_pressure x y z = (if x ≤ 15 ∧ y ≤ 127 ∧ z ≤ 127 then modelNamed rawFactory .polyphonicKeyPressure x y z else .error .testUtilExpect) ∧
    TestUtil.program_change x y = (if x ≤ 15 ∧ y ≤ 127 then modelNamed rawFactory .programChange x y 0 else .error .testUtilExpect) ∧
    TestUtil.channel_pressure x y = (if x ≤ 15 ∧ y ≤ 127 then modelNamed rawFactory .channelPressure x y 0 else .error .testUtilExpect) ∧
    TestUtil.pitch_bend_change x y = (if x ≤ 15 ∧ y ≤ 16383 then modelNamed rawFactory .pitchBendChange x y 0 else .error .testUtilExpect) ∧
    TestUtil.song_position_pointer x = (if x ≤ 16383 then modelNamed rawFactory .songPositionPointer x 0 0 else .error .testUtilExpect) ∧
    TestUtil.song_select x = (if x ≤ 127 then modelNamed rawFactory .songSelect x 0 0 else .error .testUtilExpect) := by
  obtain ⟨a1, a2, a3, a4⟩ := TU.three x y z
  obtain ⟨b1, b2, b3⟩ := TU.two x y
  obtain ⟨c1, c2⟩ := TU.one x
  rw [a1, a2, a3, a4, b1, b2, b3, c1, c2]
  exact C06.test_util_shorthands x y z

/-- C06 / C18 for the translated composite helpers: panic exactly for out-of-range arguments (the 14-bit CC helper also,
    as documented, for an MSB controller number above 31), otherwise the described message -/
theorem composite (x y z : Nat) :
    TestUtil.control_change_14_bit x y z =
      (if x ≤ 15 ∧ y ≤ 127 ∧ z ≤ 16383 then (if y < 32 then .ok ⟨x, y, z⟩ else .error .cc14MsbAssert)
       else .error .testUtilExpect) ∧
    TestUtil.nrpn x y z = (if x ≤ 15 ∧ y ≤ 16383 ∧ z ≤ 127 then .ok ⟨x, y, z, false, false, .dataEntry⟩ else .error .testUtilExpect) ∧
    TestUtil.rpn_14_bit x y z = (if x ≤ 15 ∧ y ≤ 16383 ∧ z ≤ 16383 then .ok ⟨x, y, z, true, true, .dataEntry⟩ else .error .testUtilExpect) := by
  obtain ⟨p1, _, _, p4⟩ := TU.pn x y z
  rw [TU.cc14, p1, p4]
  exact ⟨(C06.test_util_composite x y z true).1, (C06.test_util_composite x y z false).2.1, (C06.test_util_composite x y z true).2.2⟩

/-- `short(status, d1, d2)` panics exactly for data bytes above 127 or a status byte below 0x80 -/
theorem short_eq (s a b : Nat) : TestUtil.short s a b = tuShort s a b := TU.short s a b

end Midi.Props.TUtil
