/-
Property-level facts restated for the bit helpers AS TRANSLATED from bit_util.rs (Midi/Gen/BitUtil, regenerated on
every run): what the shifts, masks and casts compute in arithmetic terms, for every in-range argument.  These are the
facts the encoder / decoder theorems of C01, C06, C07 and C09 rest on.
-/
import Midi.Proofs.GenBits

namespace Midi.Props.TBits
open Midi Midi.Gen Midi.GenTie

/-- a 14-bit value splits into `v / 128` and `v % 128`, both 7-bit -/
theorem split (v : Nat) (hv : v < 16384) :
    BitUtil.extract_high_7_bit_value_from_14_bit_value v = .ok (v / 128) ∧
    BitUtil.extract_low_7_bit_value_from_14_bit_value v = .ok (v % 128) ∧ v / 128 < 128 ∧ v % 128 < 128 := by
  rw [BU.high7, BU.low7, extractHigh7_eq, extractLow7_eq, Nat.mod_eq_of_lt (by omega : v / 128 < 128)]
  exact ⟨rfl, rfl, by omega, by omega⟩

/-- two 7-bit values join to `128 * high + low` -/
theorem join (h l : Nat) (hh : h < 128) (hl : l < 128) :
    BitUtil.build_14_bit_value_from_two_7_bit_values h l = .ok (h * 128 + l) := by
  rw [BU.build14, build14_eq h l hh hl]

/-- splitting then joining is the identity on 14-bit values -/
theorem join_split (v : Nat) (hv : v < 16384) :
    BitUtil.build_14_bit_value_from_two_7_bit_values (v / 128) (v % 128) = .ok v := by
  rw [join _ _ (by omega) (by omega)]; congr 1; omega

/-- status byte = type byte + channel for a type byte with an empty low nibble; the channel is recovered -/
theorem status_channel (t c : Nat) (ht : t % 16 = 0) (hc : c < 16) :
    BitUtil.build_status_byte t c = .ok (t + c) ∧ BitUtil.extract_channel_from_status_byte (t + c) = .ok c := by
  rw [BU.status, BU.channel, buildStatusByte_eq t c ht hc, extractChannel_eq, show (t + c) % 16 = c by omega]
  exact ⟨rfl, rfl⟩

end Midi.Props.TBits
