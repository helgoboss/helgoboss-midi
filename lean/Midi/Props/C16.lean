/-
C16  Non-contributing messages are transparent; predicates name the contributors.
-/
import Midi.Proofs.PN
import Midi.Proofs.Polling
namespace Midi.Props.C16
open Midi Midi.Spec

/-- can the message be part of a 14-bit Control Change message?  (a Control Change with controller 0–63) -/
def contributes14 (b : Bytes) : Prop := 176 ≤ b.status ∧ b.status < 192 ∧ b.d1 < 64
/-- can the message be part of an (N)RPN message?  (a Control Change with controller 6, 38, 96–101) -/
def contributesPN (b : Bytes) : Prop :=
  176 ≤ b.status ∧ b.status < 192 ∧ (b.d1 = 6 ∨ b.d1 = 38 ∨ (96 ≤ b.d1 ∧ b.d1 ≤ 101))

/-- 14-bit CC scanner: from EVERY state (reachable or not) a non-contributing valid message reports nothing and
    leaves the scanner in an equal state -/
theorem transparent_cc (s : CCScanner) (b : Bytes) (hv : b.Valid) (hn : ¬ contributes14 b) :
    s.feed rawImpl b = .ok (s, none) := by
  refine routeFeed_inert none CCChan.onCC s b hv fun h st => ?_
  rw [CCChan.onCC, if_neg (by unfold contributes14 at hn; omega), if_neg (by unfold contributes14 at hn; omega)]

/-- (N)RPN scanner: the same -/
theorem transparent_pn (s : PNScanner) (b : Bytes) (hv : b.Valid) (hn : ¬ contributesPN b) :
    s.feed rawImpl b = .ok (s, none) :=
  routeFeed_inert none PNChan.onCC s b hv fun h st => pn_onCC_other _ _ _ _ (by unfold contributesPN at hn; omega)

/-- polling scanner: the same, at any time -/
theorem transparent_polling (now : Nat) (s : PScanner) (b : Bytes) (hv : b.Valid) (hn : ¬ contributesPN b) :
    s.feed rawImpl now b = .ok (s, (none, none)) := by
  simp only [PScanner.feed_eq, PChan.feed_eq]
  refine routeFeed_inert (none, none) _ s b hv fun h st => ?_
  rw [PState.onCC_other _ _ _ _ _ (by unfold contributesPN at hn; omega)]

/-- inserting non-contributing messages anywhere never changes what is reported for the rest of the stream -/
theorem insert_anywhere_cc (s : CCScanner) (b : Bytes) (hv : b.Valid) (hn : ¬ contributes14 b) (ops : List Op) :
    ccRun s (.feed b :: ops) = (ccRun s ops).map (fun r => (r.1, none :: r.2)) := by
  simp only [ccRun, ccStep, transparent_cc s b hv hn, bind, Except.bind]
  cases ccRun s ops <;> rfl

theorem insert_anywhere_pn (s : PNScanner) (b : Bytes) (hv : b.Valid) (hn : ¬ contributesPN b) (ops : List Op) :
    pnRun s (.feed b :: ops) = (pnRun s ops).map (fun r => (r.1, none :: r.2)) := by
  simp only [pnRun, pnStep, transparent_pn s b hv hn, bind, Except.bind]
  cases pnRun s ops <;> rfl

theorem insert_anywhere_polling (now : Nat) (s : PScanner) (b : Bytes) (hv : b.Valid) (hn : ¬ contributesPN b)
    (ops : List TOp) :
    pRun now s (.feed b :: ops) = (pRun now s ops).map (fun r => (r.1, (none, none) :: r.2)) := by
  simp only [pRun, pStep, transparent_polling now s b hv hn, bind, Except.bind]
  cases pRun now s ops <;> rfl

/-- inserting a non-contributing message ANYWHERE in a stream (after any prefix `a`, before any rest `b`) changes
    nothing but adds one empty result at that position: same final state, same reports for everything else -/
theorem insert_in_the_middle_cc (s : CCScanner) (a b : List Op) (m : Bytes) (hv : m.Valid) (hn : ¬ contributes14 m) :
    ccRun s (a ++ .feed m :: b) =
      (do let (s1, o1) ← ccRun s a; let (s2, o2) ← ccRun s1 b; .ok (s2, o1 ++ none :: o2)) := by
  simp only [ccRun_eq]
  exact runM_insert ccStep s a b _ _ fun s => by rw [ccStep, transparent_cc s m hv hn]

theorem insert_in_the_middle_pn (s : PNScanner) (a b : List Op) (m : Bytes) (hv : m.Valid) (hn : ¬ contributesPN m) :
    pnRun s (a ++ .feed m :: b) =
      (do let (s1, o1) ← pnRun s a; let (s2, o2) ← pnRun s1 b; .ok (s2, o1 ++ none :: o2)) := by
  simp only [pnRun_eq]
  exact runM_insert pnStep s a b _ _ fun s => by rw [pnStep, transparent_pn s m hv hn]

theorem insert_in_the_middle_polling (now : Nat) (s : PScanner) (a b : List TOp) (m : Bytes) (hv : m.Valid)
    (hn : ¬ contributesPN m) :
    pRun now s (a ++ .feed m :: b) =
      (do let (ns1, o1) ← pRun now s a; let (ns2, o2) ← pRun ns1.1 ns1.2 b; .ok (ns2, o1 ++ (none, none) :: o2)) := by
  simp only [pRun_eq]
  exact runM_insert _ (now, s) a b _ _ fun ns => by
    simp only [pStep, transparent_polling ns.1 ns.2 m hv hn, bind, Except.bind]

/-- ControllerNumber's predicates agree: can_be_part_of_14_bit holds exactly for 0–63, the corresponding LSB controller
    number is n+32 exactly for 0–31 (no overflow for any u8-range controller number below 128), and
    is_parameter_number_message_controller_number holds exactly for {6, 38, 96, 97, 98, 99, 100, 101} -/
theorem predicates : ∀ n : Fin 128,
    (cnCanBePartOf14 n.val = true ↔ n.val < 64) ∧
    cnLsbOf n.val = .ok (if n.val < 32 then some (n.val + 32) else none) ∧
    (cnIsParameterNumber n.val = true ↔ n.val ∈ [6, 38, 96, 97, 98, 99, 100, 101]) := by decide +kernel

/-- the *_LSB constants are their MSB constant + 32 (constants regenerated from the source) -/
theorem lsb_constants : ∀ p ∈ Gen.lsbPairs, p.2 = p.1 + 32 := by decide +kernel

/-- the scanners' notion of a contributing message is the predicates' -/
theorem contributes_matches_predicates (b : Bytes) (h : 176 ≤ b.status ∧ b.status < 192) (hd : b.d1 < 128) :
    (contributes14 b ↔ cnCanBePartOf14 b.d1 = true) ∧ (contributesPN b ↔ cnIsParameterNumber b.d1 = true) := by
  have := predicates ⟨b.d1, hd⟩
  simp only at this
  constructor
  · rw [this.1]; unfold contributes14; omega
  · rw [this.2.2]; unfold contributesPN; simp; omega

/-! non-vacuity -/
example : ¬ contributes14 ⟨0xB3, 64, 5⟩ ∧ ¬ contributesPN ⟨0x93, 6, 5⟩ ∧ contributesPN ⟨0xB3, 98, 5⟩ := by
  unfold contributes14 contributesPN; simp

end Midi.Props.C16
