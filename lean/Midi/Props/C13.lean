/-
C13  Polling scanner honours its timeout.
Per-channel statements about `PChan` (one channel's sub-scanner); by `p_run_channels` the whole scanner behaves on
each channel exactly like that channel's sub-scanner on the channel's own events (`poll_justified_scanner`).
Time is the mock clock (natural number of nanoseconds); that the real clock is monotone is assumed.
-/
import Midi.Proofs.Polling
namespace Midi.Props.C13
open Midi Midi.Spec

/-- poll returns a message ONLY IF a data entry MSB is pending and at least the timeout has passed since it was
    stamped; the message is the 7-bit data entry of that byte, and the channel leaves the pending state -/
theorem poll_some (c : PChan) (now ch : Nat) (m : PNMsg) (h : (c.poll now ch).2 = some m) :
    ∃ ns arr f, c.state = .valuePending ns arr f true ∧ c.timeout ≤ now - arr ∧
      m = .sevenBit ch ns.number f ns.isRegistered .dataEntry ∧
      (c.poll now ch).1 = { c with state := .waitingForFirstValue ns } := by
  rcases c.poll_cases now ch with ⟨e, _⟩ | ⟨ns, arr, f, k, hs, hlate, e⟩ <;> rw [e] at h ⊢
  · cases h
  · obtain ⟨rfl, hm⟩ := resolvePending_eq_some h
    exact ⟨ns, arr, f, hs, hlate, hm, rfl⟩

/-- a poll before the timeout returns nothing and has no effect -/
theorem poll_early (c : PChan) (now ch : Nat) (ns : NumberState) (arr f : Nat) (k : Bool)
    (hs : c.state = .valuePending ns arr f k) (h : now - arr < c.timeout) : c.poll now ch = (c, none) :=
  c.poll_early now ch hs h

/-- a poll when nothing is pending returns nothing and has no effect -/
theorem poll_idle (c : PChan) (now ch : Nat) (h : ∀ ns arr f k, c.state ≠ .valuePending ns arr f k) :
    c.poll now ch = (c, none) :=
  c.poll_quiet now ch fun ns arr f k hs => absurd hs (h ns arr f k)

/-- "once": after a poll that reported, further polls (at any later or earlier time) return nothing and change
    nothing — until new contributing input arrives -/
theorem poll_once (c : PChan) (now ch : Nat) (m : PNMsg) (h : (c.poll now ch).2 = some m) (now' : Nat) :
    (c.poll now ch).1.poll now' ch = ((c.poll now ch).1, none) := by
  obtain ⟨ns, arr, f, _, _, _, h4⟩ := poll_some c now ch m h
  rw [h4]
  exact poll_idle _ _ _ (by intro a b c d hh; simp at hh)

/-- an unpaired data entry LSB is dropped (not reported) by the first poll after the timeout -/
theorem lsb_dropped (c : PChan) (now ch : Nat) (ns : NumberState) (arr f : Nat)
    (hs : c.state = .valuePending ns arr f false) (h : c.timeout ≤ now - arr) :
    c.poll now ch = ({ c with state := .waitingForFirstValue ns }, none) :=
  c.poll_late now ch hs h

/-- state with all arrival times erased -/
def eraseTime : PState → PState
  | .valuePending ns _ f k => .valuePending ns 0 f k
  | st => st

/-- the mere passage of time never changes what feed returns (nor the state, up to the time stamp) -/
theorem feed_time_indep (st : PState) (t1 t2 ch cn cv : Nat) :
    (st.onCC t1 ch cn cv).2 = (st.onCC t2 ch cn cv).2 ∧
    eraseTime (st.onCC t1 ch cn cv).1 = eraseTime (st.onCC t2 ch cn cv).1 := by
  refine PState.onCC_cases₂ st st t1 t2 ch ch cn cv cv (P := fun r1 r2 => r1.2 = r2.2 ∧ eraseTime r1.1 = eraseTime r2.1)
    (fun _ _ _ => ⟨rfl, rfl⟩) (fun _ => ?_) (fun _ => ?_) (fun _ _ => ⟨rfl, rfl⟩) (fun _ => ⟨rfl, rfl⟩)
  all_goals rcases st with ⟨b, r, k⟩ | ns | ⟨ns, arr, f, _ | _⟩ | ⟨ns, a, b⟩ <;> exact ⟨rfl, rfl⟩

/-- a pending byte is always stamped with the time of the feed that delivered it: whenever a feed leaves the channel
    in a pending state, either nothing changed or the pending byte is the current message's value, stamped `now`,
    and the message was controller 6 (MSB) or 38 (LSB) -/
theorem arrival_stamped (st : PState) (now ch cn cv : Nat) (ns : NumberState) (arr f : Nat) (k : Bool)
    (h : (st.onCC now ch cn cv).1 = .valuePending ns arr f k) :
    st = .valuePending ns arr f k ∨ (arr = now ∧ f = cv ∧ cn = (if k then 6 else 38)) := by
  revert h
  refine PState.onCC_cases st now ch cn cv
    (P := fun r => r.1 = .valuePending ns arr f k →
      st = .valuePending ns arr f k ∨ (arr = now ∧ f = cv ∧ cn = if k then 6 else 38)) ?_ ?_ ?_ ?_ (fun _ h => .inl h)
  · intro reg msb _ h
    rcases st with ⟨_ | b, r, _ | _⟩ | ns' | ⟨ns', arr', f', k'⟩ | ⟨ns', a, b⟩ <;> cases msb <;> cases h
  · intro hcn h
    rcases st with ⟨b, r, k'⟩ | ns' | ⟨ns', arr', f', _ | _⟩ | ⟨ns', a, b⟩ <;> cases h
    exact .inr ⟨rfl, rfl, hcn⟩
  · intro hcn h
    rcases st with ⟨b, r, k'⟩ | ns' | ⟨ns', arr', f', _ | _⟩ | ⟨ns', a, b⟩ <;> cases h <;> exact .inr ⟨rfl, rfl, hcn⟩
  · intro inc _ h
    rcases st with ⟨b, r, k'⟩ | ns' | ⟨ns', arr', f', _ | _⟩ | ⟨ns', a, b⟩ <;> cases h

/-- History level, any starting state: if a byte is pending after a sequence of events of one channel, then either
    it was already pending (same byte, same stamp) at the start, or it was fed by a controller-6 (MSB) /
    controller-38 (LSB) message with that value at exactly the stamped time -/
theorem pending_origin' (ch : Nat) (c : PChan) (es : List PEv)
    (ns : NumberState) (arr f : Nat) (k : Bool) (h : (c.evs ch es).1.state = .valuePending ns arr f k) :
    PEv.cc (if k then 6 else 38) f arr ∈ es ∨ c.state = .valuePending ns arr f k := by
  induction es generalizing c with
  | nil => exact Or.inr h
  | cons e es ih =>
    rcases ih (c.ev ch e).1 h with hin | hst
    · exact Or.inl (List.mem_cons_of_mem _ hin)
    · cases e with
      | reset => simp [PChan.ev, PState.default] at hst
      | poll now =>
        simp only [PChan.ev] at hst
        rcases c.poll_cases now ch with ⟨e, _⟩ | ⟨_, _, _, _, _, _, e⟩ <;> rw [e] at hst
        · exact Or.inr hst
        · cases hst
      | cc cn cv now =>
        rcases arrival_stamped c.state now ch cn cv ns arr f k hst with hh | ⟨h1, h2, h3⟩
        · exact Or.inr hh
        · left; subst h1 h2 h3; exact List.mem_cons_self

/-- from a channel with nothing pending (a new or reset scanner): a pending byte was fed at its stamped time -/
theorem pending_origin (ch : Nat) (c : PChan) (es : List PEv)
    (h0 : ∀ ns arr f k, c.state ≠ .valuePending ns arr f k)
    (ns : NumberState) (arr f : Nat) (k : Bool) (h : (c.evs ch es).1.state = .valuePending ns arr f k) :
    PEv.cc (if k then 6 else 38) f arr ∈ es := by
  rcases pending_origin' ch c es ns arr f k h with h | h
  · exact h
  · exact absurd h (h0 _ _ _ _)

/-- Putting it together for one channel's whole history from a fresh sub-scanner: a poll at time `now` returns a
    message only if a controller-6 message with that value was fed at some time `arr` with `timeout ≤ now - arr`. -/
theorem poll_report_justified (ch timeout : Nat) (es : List PEv) (now : Nat) (m : PNMsg)
    (h : (((({ timeout := timeout } : PChan).evs ch es).1).poll now ch).2 = some m) :
    ∃ arr f, PEv.cc 6 f arr ∈ es ∧ timeout ≤ now - arr ∧ m.value = f ∧ m.is14Bit = false ∧ m.dataType = .dataEntry := by
  obtain ⟨ns, arr, f, hs, ht, rfl, _⟩ := poll_some _ now ch m h
  have ho := pending_origin ch { timeout := timeout } es (by intro a b c d hh; simp [PState.default] at hh) ns arr f true hs
  rw [evs_timeout] at ht
  exact ⟨arr, f, by simpa using ho, ht, rfl, rfl, rfl⟩

/-- C13 for the WHOLE scanner: after any interleaving of valid feeds on all 16 channels, polls, resets and time steps
    from `new(timeout)`, a poll of channel `c` returns a message only if a controller-6 message with that value was
    fed ON CHANNEL `c` at a time at least `timeout` before the poll; the message is that 7-bit data entry -/
theorem poll_justified_scanner (c : Nat) (hc : c < 16) (now timeout : Nat) (ops : List TOp) (hv : ∀ op ∈ ops, op.Valid) :
    ∃ n s outs, pRun now (PScanner.new timeout) ops = .ok ((n, s), outs) ∧
      ∀ s' m, s.poll n c = .ok (s', some m) →
        ∃ arr f, TOp.feed ⟨176 + c, 6, f⟩ ∈ ops ∧ timeout ≤ n - arr ∧ m.value = f ∧ m.is14Bit = false ∧
          m.dataType = .dataEntry := by
  obtain ⟨n, s, outs, h, hs, _⟩ := p_run_new_channel c hc now timeout ops hv
  refine ⟨n, s, outs, h, ?_⟩
  intro s' m hp
  unfold PScanner.poll at hp
  simp only [hc, dite_true] at hp
  injection hp with hp
  injection hp with _ hm
  rw [hs] at hm
  obtain ⟨arr, f, hmem, ht, h1, h2, h3⟩ := poll_report_justified c timeout (project c now ops) n m hm
  exact ⟨arr, f, project_cc_origin c now ops 6 f arr hmem, ht, h1, h2, h3⟩

end Midi.Props.C13
