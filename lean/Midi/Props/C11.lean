/-
C11  (N)RPN scanner reports exactly the justified messages.
`justifiedPN past m` (Midi/Spec/History.lean) is the property text as a function of the history alone.
-/
import Midi.Proofs.PN
namespace Midi.Props.C11
open Midi Midi.Spec

/-- For ALL finite histories of feeds (any valid short message) and resets, of any length: the scanner never
    panics, every operation reports exactly what the history justifies, and so does the next input. -/
theorem exact (past : List Op) (hp : ∀ op ∈ past, op.Valid) (m : Bytes) (hm : m.Valid) :
    ∃ s s', pnRun PNScanner.new past = .ok (s, expectedPN [] past) ∧
      s.feed rawImpl m = .ok (s', justifiedPN past m) := by
  obtain ⟨s, h, r⟩ := pn_run PNScanner.new [] pnRel_new past hp
  obtain ⟨s', h', _⟩ := pn_step s past r (.feed m) hm
  exact ⟨s, s', h, h'⟩

/-- every other input yields nothing -/
theorem nothing_else (past : List Op) (m : Bytes)
    (h : ¬ (176 ≤ m.status ∧ m.status < 192 ∧ (m.d1 = 6 ∨ m.d1 = 96 ∨ m.d1 = 97))) : justifiedPN past m = none :=
  justPN_other (PNAbs.of past (m.status - 176)) m h

/-- nothing is reported unless both a number MSB and a number LSB have been received since creation / reset -/
theorem needs_complete_number (past : List Op) (m : Bytes)
    (h : numMsb past (m.status - 176) = none ∨ numLsb past (m.status - 176) = none) : justifiedPN past m = none := by
  unfold justifiedPN
  split
  · rcases h with h | h <;> simp [h]
  · rfl

/-- every reported message carries the channel of the input, number = 128 x latest MSB + latest LSB, and is
    registered exactly if the most recent number byte was controller 100/101 -/
theorem reported_fields (past : List Op) (m : Bytes) (r : PNMsg) (h : justifiedPN past m = some r) :
    ∃ hi lo, numMsb past (m.status - 176) = some hi ∧ numLsb past (m.status - 176) = some lo ∧
      r.channel = m.status - 176 ∧ r.number = 128 * hi + lo ∧ r.isRegistered = regOf past (m.status - 176) ∧
      (m.d1 = 96 → r = ⟨m.status - 176, 128 * hi + lo, m.d2, regOf past (m.status - 176), false, .dataIncrement⟩) ∧
      (m.d1 = 97 → r = ⟨m.status - 176, 128 * hi + lo, m.d2, regOf past (m.status - 176), false, .dataDecrement⟩) ∧
      (m.d1 = 6 → ∀ l, v38Of past (m.status - 176) = some l →
        r = ⟨m.status - 176, 128 * hi + lo, 128 * m.d2 + l, regOf past (m.status - 176), true, .dataEntry⟩) ∧
      (m.d1 = 6 → v38Of past (m.status - 176) = none →
        r = ⟨m.status - 176, 128 * hi + lo, m.d2, regOf past (m.status - 176), false, .dataEntry⟩) := by
  obtain ⟨-, hi, lo, h1, h2, rfl⟩ := justPN_some (a := PNAbs.of past (m.status - 176)) h
  refine ⟨hi, lo, h1, h2, (pnReport_fields ..).1, (pnReport_fields ..).2.1, (pnReport_fields ..).2.2, ?_⟩
  dsimp only [PNAbs.of]
  exact ⟨fun h => by rw [h]; rfl, fun h => by rw [h]; rfl, fun h l hl => by rw [h, hl]; rfl,
    fun h hl => by rw [h, hl]; rfl⟩

/-! non-vacuity -/
example : justifiedPN [.feed ⟨178, 99, 3⟩, .feed ⟨178, 98, 37⟩, .feed ⟨178, 38, 64⟩] ⟨178, 6, 62⟩
    = some ⟨2, 421, 8000, false, true, .dataEntry⟩ := by decide

/-! ### data independence (justifies the value abstraction of the correspondence's state-space exploration) -/

set_option linter.unusedVariables false in
/-- The scanner looks at status bytes and controller numbers only: relabelling the value bytes of every Control Change
    of the history and of the input by ANY function `f` relabels the reported message by `f` and changes nothing else. -/
theorem data_independent (f : Nat → Nat) (past : List Op) (hp : ∀ op ∈ past, op.Valid) (m : Bytes) (hm : m.Valid) :
    justifiedPN (past.map (relabelOp f)) (relabelB f m) = (justifiedPN past m).map (relabelMsg f) := by
  rw [justifiedPN_eq, justifiedPN_eq, relabelB_status]
  exact justPN_relabel f _ _ (pnAbs_of_bounded _ past hp) m fun h => pnAbs_of_relabel f _ (by omega) past

/-- ... and so does the scanner itself after ANY relabelled history -/
theorem scanner_data_independent (f : Nat → Nat) (hf : ∀ v, v < 128 → f v < 128)
    (past : List Op) (hp : ∀ op ∈ past, op.Valid) (m : Bytes) (hm : m.Valid) :
    ∃ s s', pnRun PNScanner.new (past.map (relabelOp f)) = .ok (s, expectedPN [] (past.map (relabelOp f))) ∧
      s.feed rawImpl (relabelB f m) = .ok (s', (justifiedPN past m).map (relabelMsg f)) := by
  rw [← data_independent f past hp m hm]
  exact exact _ (relabel_valid f hf past hp) _ (relabelB_valid f hf m hm)

/-! non-vacuity: collapsing every value to `v % 2` -/
example : justifiedPN ([.feed ⟨181, 99, 9⟩, .feed ⟨181, 98, 4⟩, .feed ⟨181, 38, 7⟩].map (relabelOp (· % 2)))
    (relabelB (· % 2) ⟨181, 6, 33⟩) = some ⟨5, 128, 129, false, true, .dataEntry⟩ := by decide

end Midi.Props.C11
