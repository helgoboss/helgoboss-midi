/-
C01  Short messages preserve their bytes: lossless, canonical round trips.
-/
import Midi.Proofs.Short
namespace Midi.Props.C01
open Midi Midi.Spec

/-- `from_bytes` succeeds exactly when the status byte is at least 0x80 — for every factory
    implementation `F`; on success it is `from_bytes_unchecked` of the same bytes. -/
theorem fromBytes_iff {α} (F : Factory α) (b : Bytes) (h : b.InRange) :
    fromBytes F b = if 128 ≤ b.status then (F.ofBytesUnchecked b).map some else .ok none := fromBytes_eq F b h

/-- RawShortMessage: accepted iff status ≥ 0x80, and then returns exactly the bytes it was made from -/
theorem raw_fromBytes (b : Bytes) (h : b.InRange) :
    fromBytes rawFactory b = .ok (if 128 ≤ b.status then some b else none) := Midi.raw_fromBytes b h

theorem raw_roundtrip (b : Bytes) :
    rawImpl.toBytes b = b ∧ bytesOf rawImpl b = b ∧ rawFactory.ofBytesUnchecked b = .ok b := ⟨rfl, rfl, rfl⟩

/-- StructuredShortMessage: accepted iff status ≥ 0x80, value = the structured form of the MIDI table -/
theorem structured_fromBytes (b : Bytes) (h : b.InRange) :
    fromBytes structuredFactory b = .ok (if 128 ≤ b.status then some (specStructured b) else none) := by
  rw [fromBytes_iff _ _ h]
  split
  · next h1 => exact congrArg (Except.map some) (structured_ofBytes b ⟨h1, h.1, h.2.1, h.2.2⟩)
  · rfl

/-- the StructuredShortMessage decoded from valid bytes gives back those bytes with only the information-free parts
    zeroed (`canon`), through `to_bytes` and through the getters -/
theorem structured_bytes (b : Bytes) (hv : b.Valid) :
    structuredImpl.toBytes (specStructured b) = canon b ∧ bytesOf structuredImpl (specStructured b) = canon b :=
  ⟨bytesOf_specStructured b hv, bytesOf_specStructured b hv⟩

/-- the canonical form is canonical: idempotent, valid, and only ever clears bits -/
theorem canon_idem (b : Bytes) (hv : b.Valid) :
    canon (canon b) = canon b ∧ (canon b).Valid ∧ (canon b).status = b.status
      ∧ (canon b).d1 ≤ b.d1 ∧ (canon b).d2 ≤ b.d2 := by
  obtain ⟨s, d1, d2⟩ := b
  obtain ⟨h1, h2, h3, h4⟩ := hv
  simp only at h1 h2 h3 h4
  have hc := canonD1_idem_le s d1 h3
  have hd : canonD2 s (canonD2 s d2) = canonD2 s d2 ∧ canonD2 s d2 ≤ d2 := by
    unfold canonD2; split <;> simp [*]
  simp only [canon, Bytes.Valid, hc.1, hd.1]
  refine ⟨trivial, ⟨h1, h2, ?_, ?_⟩, trivial, hc.2, hd.2⟩ <;> omega

/-- raw → structured → raw is idempotent: converting the canonical bytes again changes nothing -/
theorem raw_structured_raw_idem (b : Bytes) (hv : b.Valid) :
    SMsg.ofBytesUnchecked (canon b) = SMsg.ofBytesUnchecked b := by
  rw [structured_ofBytes b hv, structured_ofBytes _ (canon_idem b hv).2.1, ← bytesOf_specStructured b hv,
    (specStructured_bytesOf _ (specStructured_valid b hv)).2]

/-- every StructuredShortMessage value is a fixed point of all conversions: to bytes and back,
    to_structured, to a RawShortMessage and back -/
theorem structured_fixed (m : SMsg) (hm : m.Valid) :
    (bytesOf structuredImpl m).Valid
    ∧ SMsg.ofBytesUnchecked (structuredImpl.toBytes m) = .ok m
    ∧ toStructured structuredImpl m = .ok m
    ∧ toOther structuredImpl structuredFactory m = .ok m
    ∧ (∀ r, toOther structuredImpl rawFactory m = .ok r → toStructured rawImpl r = .ok m ∧
          fromOther structuredFactory rawImpl r = .ok m) := by
  obtain ⟨hv, hs⟩ := specStructured_bytesOf m hm
  have h2 : SMsg.ofBytesUnchecked (bytesOf structuredImpl m) = .ok m := by rw [structured_ofBytes _ hv, hs]
  refine ⟨hv, h2, rfl, h2, ?_⟩
  intro r hr
  cases hr
  exact ⟨h2, h2⟩

/-- quarter-frame codec: frame → U7 → frame is the identity for every frame -/
theorem qf_codec (f : QFrame) (hf : f.Valid) : f.toU7 < 128 ∧ QFrame.ofU7 f.toU7 = .ok f := by
  obtain ⟨h1, h2⟩ := specQFrame_toU7 f hf
  exact ⟨h1, by rw [ofU7_spec _ h1, h2]⟩

/-- U7 → frame → U7 clears only the reserved bit of a 'last' frame -/
theorem qf_codec' (d : Nat) (h : d < 128) :
    ∃ f, QFrame.ofU7 d = .ok f ∧ f.Valid ∧ f.toU7 = if d / 16 = 7 then d - d / 8 % 2 * 8 else d :=
  ⟨specQFrame d, ofU7_spec d h, specQFrame_valid d h, toU7_specQFrame d h⟩

/-- message type ↔ u8: into then try_from is the identity; try_from succeeds only on a discriminant -/
theorem type_u8_codec :
    (∀ t : MsgType, MsgType.ofU8 t.toU8 = some t ∧ 128 ≤ t.toU8 ∧ t.toU8 < 256) ∧
    (∀ n t, MsgType.ofU8 n = some t → t.toU8 = n) ∧
    (∀ n, n < 256 → ((MsgType.ofU8 n).isSome ↔ n ∈ Gen.messageTypeValues)) := by
  refine ⟨fun t => ⟨t.ofU8_toU8, t.toU8_range⟩, fun _ _ => MsgType.toU8_of_ofU8, fun n _ => ?_⟩
  rw [ofU8_spec n]
  split <;> simp [*]

/-! non-vacuity: concrete instances of the hypotheses -/
example : (⟨0xF1, 0x7A, 5⟩ : Bytes).Valid ∧ canon ⟨0xF1, 0x7A, 5⟩ = ⟨0xF1, 0x72, 0⟩ := by decide
example : (SMsg.pitchBendChange 15 16383).Valid ∧ (QFrame.last true .fps30NonDrop).Valid := by decide

end Midi.Props.C01
