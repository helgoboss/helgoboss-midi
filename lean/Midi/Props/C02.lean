/-
C02  Classification and field accessors follow the MIDI 1.0 status table.
For every implementation `I` of the trait (record of getters), every value `x` whose bytes are valid.
-/
import Midi.Proofs.Short
namespace Midi.Props.C02
open Midi Midi.Spec

section
variable {α : Type} (I : Impl α) (x : α)

/-- type is determined by the status byte alone (high nibble below 0xF0, whole byte from 0xF0 up) -/
theorem type_eq_spec (hv : (bytesOf I x).Valid) :
    msgType I x = .ok (specType (I.status x)) ∧ (specType (I.status x)).toU8 = specTypeByte (I.status x) :=
  ⟨msgType_spec I x hv.1 hv.2.1, toU8_specType _ hv.2.1 hv.1⟩

/-- super type and main category follow the MIDI 1.0 tables; Control Change is Channel Mode exactly for
    controller numbers 120–127 -/
theorem super_main_eq_spec (hv : (bytesOf I x).Valid) :
    superType I x = .ok (specSuper (bytesOf I x)) ∧ mainCategory I x = .ok (specMain (I.status x)) :=
  ⟨superType_spec I x hv, mainCategory_spec I x hv⟩

/-- the channel is present exactly for channel messages and equals the low nibble -/
theorem channel_eq_spec (hv : (bytesOf I x).Valid) : channel I x = .ok (specChannel (I.status x)) :=
  channel_spec I x hv

/-- each field accessor returns a value exactly for the message types that carry the field, equal to the
    corresponding data byte(s); 14-bit values are data byte 2 x 128 + data byte 1 -/
theorem accessors_eq_spec (hv : (bytesOf I x).Valid) :
    keyNumber I x = .ok (specKey (bytesOf I x)) ∧ velocity I x = .ok (specVelocity (bytesOf I x)) ∧
    controllerNumber I x = .ok (specControllerNumber (bytesOf I x)) ∧
    controlValue I x = .ok (specControlValue (bytesOf I x)) ∧
    programNumber I x = .ok (specProgramNumber (bytesOf I x)) ∧
    pressureAmount I x = .ok (specPressure (bytesOf I x)) ∧
    pitchBendValue I x = .ok (specPitchBend (bytesOf I x)) ∧ isNote I x = .ok (specIsNote (bytesOf I x)) := by
  obtain ⟨h1, h2, h3, h4⟩ := bytesOf_valid_iff.mp hv
  unfold keyNumber velocity controllerNumber controlValue programNumber pressureAmount pitchBendValue isNote
  simp only [msgType_spec I x h1 h2, specKey, specVelocity, specControllerNumber, specControlValue, specProgramNumber,
    specPressure, specPitchBend, specIsNote, bytesOf, status_table _ h2 h1, build14_eq _ _ h4 h3]
  generalize specType (I.status x) = t
  cases t <;> exact ⟨rfl, rfl, rfl, rfl, rfl, rfl, rfl, rfl⟩

/-- the structured form has the matching variant and fields -/
theorem structured_eq_spec (hl : I.LawfulAt x) (hv : (bytesOf I x).Valid) :
    toStructured I x = .ok (specStructured (bytesOf I x)) := toStructured_spec I x hl hv

/-- is_note_on / is_note_off treat a Note On with velocity 0 as a note-off -/
theorem note_predicates (hl : I.LawfulAt x) (hv : (bytesOf I x).Valid) :
    isNoteOn I x = .ok (specIsNoteOn (bytesOf I x)) ∧ isNoteOff I x = .ok (specIsNoteOff (bytesOf I x)) := by
  unfold isNoteOn isNoteOff
  rw [toStructured_spec I x hl hv]
  obtain ⟨h1, h2, -, -⟩ := hv
  simp only [specStructured, specIsNoteOn, specIsNoteOff, status_table _ h2 h1]
  generalize specType (bytesOf I x).status = t
  cases t
  case noteOn =>
    -- what is left is `(d2 == 0) = decide (d2 = 0)`
    simp only [bind, Except.bind, gt_iff_lt, true_and, reduceCtorEq, false_or]
    rfl
  all_goals exact ⟨rfl, rfl⟩

end

/-- a message type's own super type / main category agree with those of every message of that type -/
theorem type_level (b : Bytes) (hv : b.Valid) :
    (specType b.status).superType = specFuzzy b.status ∧
    (specType b.status).superType.mainCategory = specMain b.status ∧
    (specSuper b).mainCategory = (specType b.status).superType.mainCategory ∧
    ((specType b.status).superType = .channel ↔ (specSuper b = .channelVoice ∨ specSuper b = .channelMode)) ∧
    ((specType b.status).superType = .systemCommon ↔ specSuper b = .systemCommon) ∧
    ((specType b.status).superType = .systemRealTime ↔ specSuper b = .systemRealTime) ∧
    ((specType b.status).superType = .systemExclusive ↔ specSuper b = .systemExclusive) := by
  obtain ⟨h1, h2, -, -⟩ := hv
  simp only [specFuzzy, specMain, specSuper, status_table _ h2 h1]
  generalize specType b.status = t
  cases t
  case controlChange => by_cases hd : 120 ≤ b.d1 <;> simp [hd, MsgType.superType, MsgType.toU8,
    FuzzySuperType.mainCategory, SuperType.mainCategory]
  all_goals
    simp only [reduceCtorEq, false_and, ↓reduceIte]
    decide

/-- the `u8` conversion of message types is total on the 23 discriminants and partial elsewhere
    (discriminants regenerated from the source) -/
theorem type_u8_table :
    Gen.messageTypeValues = [128, 144, 160, 176, 192, 208, 224] ++ (List.range 16).map (· + 240) ∧
    Gen.messageTypeMin = 128 ∧ Gen.messageTypeMax = 255 ∧
    ∀ n : Fin 256, MsgType.ofU8 n.val = (if n.val ∈ Gen.messageTypeValues then some (specType n.val) else none) :=
  ⟨by decide, by decide, by decide, fun n => ofU8_spec n.val⟩

/-! non-vacuity -/
example : (bytesOf rawImpl ⟨0xB7, 120, 0⟩).Valid ∧ specSuper ⟨0xB7, 120, 0⟩ = .channelMode
    ∧ specSuper ⟨0xB7, 119, 0⟩ = .channelVoice := by decide
example : specPitchBend ⟨0xE0, 1, 2⟩ = some 257 ∧ specIsNoteOff ⟨0x90, 60, 0⟩ = true := by decide

end Midi.Props.C02
