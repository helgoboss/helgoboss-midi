/-
C03  All ShortMessage implementations are observationally equivalent.
-/
import Midi.Props.C01
import Midi.Props.C02
namespace Midi.Props.C03
open Midi Midi.Spec

/-- every derived trait method (all accessors and the structured form), as one tuple -/
def accessors {α} (I : Impl α) (x : α) :=
  (msgType I x, superType I x, mainCategory I x, channel I x, keyNumber I x, velocity I x,
   controllerNumber I x, controlValue I x, programNumber I x, pressureAmount I x, pitchBendValue I x,
   isNote I x, isNoteOn I x, isNoteOff I x, toStructured I x)

/-- the same tuple read off the MIDI table -/
def specAccessors (b : Bytes) : Res MsgType × Res SuperType × Res MainCategory × Res (Option Nat) ×
    Res (Option Nat) × Res (Option Nat) × Res (Option Nat) × Res (Option Nat) × Res (Option Nat) ×
    Res (Option Nat) × Res (Option Nat) × Res Bool × Res Bool × Res Bool × Res SMsg :=
  (.ok (specType b.status), .ok (specSuper b), .ok (specMain b.status), .ok (specChannel b.status),
   .ok (specKey b), .ok (specVelocity b), .ok (specControllerNumber b), .ok (specControlValue b),
   .ok (specProgramNumber b), .ok (specPressure b), .ok (specPitchBend b), .ok (specIsNote b),
   .ok (specIsNoteOn b), .ok (specIsNoteOff b), .ok (specStructured b))

/-- For any lawful implementor — a universally quantified record of getters whose `to_bytes` / `to_structured`
    overrides, if present, agree with the defaults (`LawfulAt`) — every derived method is a function of the three
    bytes alone: it answers exactly what RawShortMessage answers for the same bytes.  No validity hypothesis. -/
theorem derived_from_getters {α} (I : Impl α) (x : α) (hl : I.LawfulAt x) :
    accessors I x = accessors rawImpl (bytesOf I x) ∧
    (∀ {β} (F : Factory β), toOther I F x = toOther rawImpl F (bytesOf I x)) := by
  have hs := toStructured_bytesOf I x hl
  refine ⟨?_, ?_⟩
  · unfold accessors isNoteOn isNoteOff
    rw [hs]
    rfl
  · intro β F; unfold toOther; rw [hl.1]; rfl

/-- all accessors of a lawful implementor with valid bytes follow the table (C02 in one statement) -/
theorem accessors_eq_spec {α} (I : Impl α) (x : α) (hl : I.LawfulAt x) (hv : (bytesOf I x).Valid) :
    accessors I x = specAccessors (bytesOf I x) := by
  obtain ⟨ty, -⟩ := C02.type_eq_spec I x hv
  obtain ⟨sup, main⟩ := C02.super_main_eq_spec I x hv
  obtain ⟨key, vel, cn, cv, prog, press, bend, note⟩ := C02.accessors_eq_spec I x hv
  obtain ⟨on, off⟩ := C02.note_predicates I x hl hv
  unfold accessors specAccessors
  rw [ty, sup, main, C02.channel_eq_spec I x hv, key, vel, cn, cv, prog, press, bend, note,
    C02.structured_eq_spec I x hl hv, on, off]
  rfl

/-- the table does not look at information-free parts -/
theorem spec_canon (b : Bytes) (hv : b.Valid) : specAccessors (canon b) = specAccessors b := by
  obtain ⟨s, d1, d2⟩ := b
  obtain ⟨h1, h2, h3, h4⟩ := hv
  -- clearing the reserved bit does not change the quarter frame: the cleared byte is the frame's own encoding
  have hq : specQFrame (if d1 / 16 = 7 then d1 - d1 / 8 % 2 * 8 else d1) = specQFrame d1 := by
    rw [← toU7_specQFrame d1 h3]
    exact (specQFrame_toU7 _ (specQFrame_valid d1 h3)).2
  simp only [specAccessors, canon, canonD1, canonD2, specDataLen, specSuper, specKey, specVelocity, specControllerNumber,
    specControlValue, specProgramNumber, specPressure, specPitchBend, specIsNote, specIsNoteOn, specIsNoteOff,
    specStructured, status_table s h2 h1]
  generalize specType s = t
  cases t
  case timeCodeQuarterFrame => simp [MsgType.toU8, hq]
  all_goals simp only [reduceCtorEq, ↓reduceIte, false_and, true_and, false_or, or_false] <;> rfl

/-- RawShortMessage and the StructuredShortMessage converted from it agree on every accessor; the only
    difference is that the structured one reports the canonical (information-free parts zeroed) data bytes -/
theorem raw_vs_structured (b : Bytes) (hv : b.Valid) :
    ∃ m, SMsg.ofBytesUnchecked b = .ok m ∧ accessors structuredImpl m = accessors rawImpl b ∧
      bytesOf structuredImpl m = canon b := by
  have hb := bytesOf_specStructured b hv
  refine ⟨specStructured b, structured_ofBytes b hv, ?_, hb⟩
  rw [accessors_eq_spec structuredImpl _ (structuredImpl_lawful _ (specStructured_valid b hv))
    (hb ▸ (C01.canon_idem b hv).2.1), hb, spec_canon b hv]
  exact (accessors_eq_spec rawImpl b (rawImpl_lawful b) hv).symm

/-- conversions commute with every accessor: converting any lawful implementor's value to a
    RawShortMessage or to a StructuredShortMessage (to_other / from_other / to_structured) preserves the
    answers of all accessors -/
theorem conversions_commute {α} (I : Impl α) (x : α) (hl : I.LawfulAt x) (hv : (bytesOf I x).Valid) :
    (∃ r, toOther I rawFactory x = .ok r ∧ fromOther rawFactory I x = .ok r ∧
        accessors rawImpl r = accessors I x ∧ bytesOf rawImpl r = bytesOf I x) ∧
    (∃ m, toOther I structuredFactory x = .ok m ∧ fromOther structuredFactory I x = .ok m ∧
        toStructured I x = .ok m ∧
        accessors structuredImpl m = accessors I x ∧ bytesOf structuredImpl m = canon (bytesOf I x)) := by
  have hd := derived_from_getters I x hl
  constructor
  · refine ⟨bytesOf I x, ?_, ?_, hd.1.symm, rfl⟩
    · rw [hd.2]; rfl
    · unfold fromOther; rw [hd.2]; rfl
  · obtain ⟨m, h1, h2, h3⟩ := raw_vs_structured (bytesOf I x) hv
    refine ⟨m, ?_, ?_, ?_, ?_, h3⟩
    · rw [hd.2]; exact h1
    · unfold fromOther; rw [hd.2]; exact h1
    · rw [toStructured_spec I x hl hv, ← structured_ofBytes _ hv]; exact h1
    · rw [h2]; exact hd.1.symm

/-! non-vacuity: both crate implementations and a getter-only implementor are lawful -/
example : rawImpl.LawfulAt ⟨0x93, 60, 0⟩ ∧ (bytesOf rawImpl ⟨0x93, 60, 0⟩).Valid := ⟨rawImpl_lawful _, by decide⟩
example (I : Impl Nat) (h : I.toBytes = fun x => ⟨I.status x, I.d1 x, I.d2 x⟩) (h2 : I.toStructuredOverride = none) (x : Nat) :
    I.LawfulAt x := ⟨by rw [h]; rfl, by intro f hf; rw [h2] at hf; cases hf⟩

end Midi.Props.C03
