/-
C17  reset() is equivalent to starting over.
-/
import Midi.Proofs.Polling
namespace Midi.Props.C17
open Midi Midi.Spec

/-- after reset() the 14-bit CC scanner equals a newly created one — from EVERY state -/
theorem reset_eq_new_cc (s : CCScanner) : s.reset = CCScanner.new := Vector.map_const' ..

theorem reset_eq_new_pn (s : PNScanner) : s.reset = PNScanner.new := Vector.map_const' ..

/-- every channel carries the same timeout (true of `new t`, preserved by every operation) -/
def UniformTimeout (t : Nat) (s : PScanner) : Prop := ∀ c (h : c < 16), s[c].timeout = t

theorem uniform_new (t : Nat) : UniformTimeout t (PScanner.new t) :=
  fun c h => congrArg PChan.timeout (PScanner.getElem_new t c h)

/-- after any history from `new t` every channel still carries timeout `t` -/
theorem uniform_reachable (t now : Nat) (ops : List TOp) (hv : ∀ op ∈ ops, op.Valid) :
    ∃ n s outs, pRun now (PScanner.new t) ops = .ok ((n, s), outs) ∧ UniformTimeout t s := by
  obtain ⟨n, s, outs, h, _, hs⟩ := p_run_channels now (PScanner.new t) ops hv
  refine ⟨n, s, outs, h, fun c hc => ?_⟩
  rw [(hs c hc).1, evs_timeout]
  exact uniform_new t c hc

/-- after reset() the polling scanner equals a newly created one with the same timeout -/
theorem reset_eq_new_polling (t : Nat) (s : PScanner) (h : UniformTimeout t s) : s.reset = PScanner.new t := by
  apply Vector.ext; intro i hi
  -- `{ c with state := PState.default }` is `{ timeout := c.timeout }`
  rw [PScanner.reset, Vector.getElem_map, PScanner.getElem_new t i hi, ← h i hi]

/-- new() and default() are equal; default() of the polling scanner equals new with a zero timeout -/
theorem new_eq_default : PScanner.default = PScanner.new 0 := rfl

/-- consequently a reset scanner reports, for every subsequent input sequence, exactly what a new scanner reports -/
theorem reset_continuation_cc (s : CCScanner) (ops : List Op) : ccRun s.reset ops = ccRun CCScanner.new ops := by
  rw [reset_eq_new_cc]
theorem reset_continuation_pn (s : PNScanner) (ops : List Op) : pnRun s.reset ops = pnRun PNScanner.new ops := by
  rw [reset_eq_new_pn]
theorem reset_continuation_polling (t now : Nat) (s : PScanner) (h : UniformTimeout t s) (ops : List TOp) :
    pRun now s.reset ops = pRun now (PScanner.new t) ops := by
  rw [reset_eq_new_polling t s h]

/-! A copy of a scanner is the same value; in the model (pure functions on values) it evolves identically and
independently by construction.  That the Rust `Copy` really is a deep copy of plain data is checked on the real
code by the harness (copies made in mid-history, driven down different suffixes). -/

example : UniformTimeout 3 (PScanner.new 3) := uniform_new 3

end Midi.Props.C17
