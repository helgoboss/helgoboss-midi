/-
C19 restated for the validation code AS TRANSLATED from the Rust source by tools/rs2lean.py: the `TryFrom<Unchecked..>`
impls that `#[serde(try_from = "..")]` runs after field-wise deserialization (Midi/Gen/CCMsg, PNMsgFile; regenerated
from /repo's working tree on every run).  serde's derive itself stays modelled (field by field, each through the
restricted integer's own range-checked deserializer).
-/
import Midi.Proofs.GenSerde
import Midi.Props.C19

namespace Midi.Props.TSerde
open Midi Midi.Spec Midi.Gen Midi.GenTie

/-- 14-bit Control Change: whatever integers the input carries, deserialization = fields, then the TRANSLATED
    validation; it yields only messages `new` would build, and accepts every valid message -/
theorem cc14 (ch msb value : Int) :
    (∀ m, SER.deCC14T ch msb value = some m → m.Valid ∧ CC14Msg.new m.channel m.msb m.value = .ok m) ∧
    (∀ m : CC14Msg, m.Valid → SER.deCC14T m.channel m.msb m.value = some m) := by
  simp only [← SER.deCC14_eq]
  exact C19.cc14_sound_complete ch msb value

/-- the translated validation never panics and accepts exactly MSB controller numbers 0-31 -/
theorem cc14_validation (c n v : Nat) :
    CCMsg.ControlChange14BitMessage.try_from ⟨c, n, v⟩ = .ok (if n < 32 then some ⟨c, n, v⟩ else none) :=
  SER.cc14_try_from c n v

/-- (N)RPN: deserialization = fields, then the TRANSLATED validation; it yields only messages one of the eight public
    constructors builds, and accepts every valid message -/
theorem pn (ch number value reg is14 dt : Int) :
    (∀ m, SER.dePNT ch number value reg is14 dt = some m →
        m.Valid ∧ ∃ i, i < 8 ∧ PNMsg.ctor i m.channel m.number m.value = m) ∧
    (∀ m : PNMsg, m.Valid →
        SER.dePNT m.channel m.number m.value (if m.isRegistered then 1 else 0) (if m.is14Bit then 1 else 0) m.dataType.code = some m) := by
  simp only [← SER.dePN_eq]
  exact C19.pn_sound_complete ch number value reg is14 dt

/-- the translated validation never panics and accepts exactly: 14-bit implies data entry, 7-bit implies value <= 127 -/
theorem pn_validation (c n v : Nat) (r b : Bool) (d : PNMsgFile.DataType_) :
    PNMsgFile.ParameterNumberMessage.try_from ⟨c, n, v, r, b, d⟩ =
      .ok (if (if b then d = .DataEntry else v ≤ 127) then some ⟨c, n, v, r, b, d⟩ else none) :=
  SER.pn_try_from c n v r b d

end Midi.Props.TSerde
