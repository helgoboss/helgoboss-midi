/-
Property theorems restated for the code AS TRANSLATED from the Rust source by tools/rs2lean.py:
the default methods of the traits ShortMessage (short_message.rs -> Midi/Gen/ShortMsg) and ShortMessageFactory
(short_message_factory.rs -> Midi/Gen/FactoryDefaults) — regenerated from /repo's working tree on every run.
Each theorem follows from the theorem about the hand-written model and the proved equality, method by method, of the
translated default method with the hand-written one (Midi/Proofs/GenShort.lean).
-/
import Midi.Proofs.GenShort
import Midi.Props.C01
import Midi.Props.C02
import Midi.Props.C03
import Midi.Props.C06

namespace Midi.Props.TShort
open Midi Midi.Spec Midi.Gen Midi.GenTie
open Midi.Gen.ShortMsg Midi.Gen.FactoryDefaults

section
variable {α : Type} (I : Impl α) (x : α)

/-- C02 for the translated default methods: for EVERY implementor and every value with valid bytes, classification
    follows the MIDI status table -/
theorem classification (hv : (bytesOf I x).Valid) :
    ShortMessage.type_ I x = .ok (specType (I.status x)) ∧
    ShortMessage.super_type I x = .ok (specSuper (bytesOf I x)) ∧
    ShortMessage.main_category I x = .ok (specMain (I.status x)) ∧
    ShortMessage.channel I x = .ok (specChannel (I.status x)) := by
  rw [SM.type_, SM.super_type, SM.main_category, SM.channel]
  exact ⟨(C02.type_eq_spec I x hv).1, (C02.super_main_eq_spec I x hv).1, (C02.super_main_eq_spec I x hv).2,
    C02.channel_eq_spec I x hv⟩

/-- C02: the field accessors -/
theorem accessors (hv : (bytesOf I x).Valid) :
    ShortMessage.key_number I x = .ok (specKey (bytesOf I x)) ∧
    ShortMessage.velocity I x = .ok (specVelocity (bytesOf I x)) ∧
    ShortMessage.controller_number I x = .ok (specControllerNumber (bytesOf I x)) ∧
    ShortMessage.control_value I x = .ok (specControlValue (bytesOf I x)) ∧
    ShortMessage.program_number I x = .ok (specProgramNumber (bytesOf I x)) ∧
    ShortMessage.pressure_amount I x = .ok (specPressure (bytesOf I x)) ∧
    ShortMessage.pitch_bend_value I x = .ok (specPitchBend (bytesOf I x)) ∧
    ShortMessage.is_note I x = .ok (specIsNote (bytesOf I x)) := by
  rw [SM.key_number, SM.velocity, SM.controller_number, SM.control_value, SM.program_number, SM.pressure_amount,
    SM.pitch_bend_value, SM.is_note]
  exact C02.accessors_eq_spec I x hv

/-- C02: Note On with velocity 0 counts as note-off -/
theorem note_predicates (hl : I.LawfulAt x) (hv : (bytesOf I x).Valid) :
    ShortMessage.is_note_on I x = .ok (specIsNoteOn (bytesOf I x)) ∧
    ShortMessage.is_note_off I x = .ok (specIsNoteOff (bytesOf I x)) := by
  rw [SM.is_note_on, SM.is_note_off]
  exact C02.note_predicates I x hl hv

/-- C01/C03: the default `to_bytes` is the three getters; the default `to_structured` decodes them; `to_other` and
    `from_other` hand the implementor's bytes to the target factory -/
theorem conversions {β : Type} (F : Factory β) :
    ShortMessage.to_bytes I x = .ok (bytesOf I x) ∧
    ShortMessage.to_structured I x = SMsg.ofBytesUnchecked (I.toBytes x) ∧
    ShortMessage.to_other I x F = F.ofBytesUnchecked (I.toBytes x) ∧
    ShortMessageFactory.from_other I F x = F.ofBytesUnchecked (I.toBytes x) :=
  ⟨SM.to_bytes I x, SM.to_structured I x, SM.to_other I F x, FD.from_other I F x⟩

end

/-- C01 for the translated `from_bytes`: for EVERY implementation of the factory it succeeds exactly when the status
    byte is at least 0x80, and then hands the bytes unchanged to `from_bytes_unchecked` -/
theorem from_bytes_iff {β : Type} (F : Factory β) (b : Bytes) (h : b.InRange) :
    ShortMessageFactory.from_bytes F b = if 128 ≤ b.status then (F.ofBytesUnchecked b).map some else .ok none := by
  rw [FD.from_bytes]; exact C01.fromBytes_iff F b h

/-- C01 for the translated time-code quarter-frame conversions (`From<TimeCodeQuarterFrame> for U7` and back): every
    valid frame encodes to a 7-bit value that decodes to the same frame; every 7-bit value decodes without panic -/
theorem qf_codec (f : QFrame) (hf : f.Valid) :
    ∃ d, ShortMsg.U7.from_ f = .ok d ∧ d < 128 ∧ ShortMsg.TimeCodeQuarterFrame.from_ d = .ok f := by
  refine ⟨f.toU7, QF.to_u7 f, (C01.qf_codec f hf).1, ?_⟩
  rw [QF.of_u7]; exact (C01.qf_codec f hf).2

theorem qf_decode_total (d : Nat) (h : d < 128) :
    ∃ f, ShortMsg.TimeCodeQuarterFrame.from_ d = .ok f ∧ f.Valid := by
  obtain ⟨f, h1, h2, _⟩ := C01.qf_codec' d h
  exact ⟨f, by rw [QF.of_u7]; exact h1, h2⟩

/-- C02 for the translated `extract_type_from_status_byte`: a type exists exactly for status bytes >= 0x80 and is the
    one of the MIDI table -/
theorem extract_type (s : Nat) (hs : s < 256) :
    ShortMsg.extract_type_from_status_byte s = .ok (if 128 ≤ s then some (specType s) else none) := by
  rw [QF.extract_type]
  by_cases h : 128 ≤ s
  · rw [if_pos h]; exact extractType_valid s h hs
  · rw [if_neg h]; exact extractType_invalid s (by omega)

/-- C06 for the translated generic constructors: they panic exactly when the type is not of the category and
    otherwise pass type, channel and data bytes on unchanged -/
theorem generic_constructors {β : Type} (F : Factory β) (t : MsgType) (ch a b : Nat) (hc : ch < 16) :
    ShortMessageFactory.channel_message F t ch a b =
      (match specChannelMessage t.toU8 ch a b with | some bs => F.ofBytesUnchecked bs | none => .error .categoryAssert) ∧
    ShortMessageFactory.system_common_message F t a b =
      (match specSystemCommonMessage t.toU8 a b with | some bs => F.ofBytesUnchecked bs | none => .error .categoryAssert) := by
  rw [FD.channel_message, FD.system_common_message]
  exact ⟨(C06.generic_constructors F t ch a b hc).1, (C06.generic_constructors F t ch a b hc).2.1⟩

/-- C06 for the translated named constructors: each equals the hand-written constructor of the same name, whose bytes
    and fields C06.named_bytes / named_fields / named_raw / named_structured pin down for all arguments -/
theorem named_constructors {β : Type} (F : Factory β) (ch a b v : Nat) (f : QFrame) :
    ShortMessageFactory.note_on F ch a b = modelNamed F .noteOn ch a b ∧
    ShortMessageFactory.note_off F ch a b = modelNamed F .noteOff ch a b ∧
    ShortMessageFactory.control_change F ch a b = modelNamed F .controlChange ch a b ∧
    ShortMessageFactory.program_change F ch a = modelNamed F .programChange ch a 0 ∧
    ShortMessageFactory.polyphonic_key_pressure F ch a b = modelNamed F .polyphonicKeyPressure ch a b ∧
    ShortMessageFactory.channel_pressure F ch a = modelNamed F .channelPressure ch a 0 ∧
    ShortMessageFactory.pitch_bend_change F ch v = modelNamed F .pitchBendChange ch v 0 ∧
    ShortMessageFactory.song_position_pointer F v = modelNamed F .songPositionPointer v 0 0 ∧
    ShortMessageFactory.song_select F a = modelNamed F .songSelect a 0 0 ∧
    ShortMessageFactory.time_code_quarter_frame F f = mkTimeCodeQuarterFrame F f := by
  obtain ⟨h1, h2, h3, h4, h5, h6, h7, h8, h9, h10⟩ := FD.named F ch a b v f
  exact ⟨h1, h2, h3, h4, h5, h6, h7, h9, h10, h8⟩

theorem plain_constructors {β : Type} (F : Factory β) :
    ShortMessageFactory.system_exclusive_start F = modelNamed F .systemExclusiveStart 0 0 0 ∧
    ShortMessageFactory.tune_request F = modelNamed F .tuneRequest 0 0 0 ∧
    ShortMessageFactory.system_exclusive_end F = modelNamed F .systemExclusiveEnd 0 0 0 ∧
    ShortMessageFactory.timing_clock F = modelNamed F .timingClock 0 0 0 ∧
    ShortMessageFactory.start F = modelNamed F .start 0 0 0 ∧
    ShortMessageFactory.continue_ F = modelNamed F .continue 0 0 0 ∧
    ShortMessageFactory.stop F = modelNamed F .stop 0 0 0 ∧
    ShortMessageFactory.active_sensing F = modelNamed F .activeSensing 0 0 0 ∧
    ShortMessageFactory.system_reset F = modelNamed F .systemReset 0 0 0 :=
  FD.plain F

end Midi.Props.TShort
