/-
C07  14-bit Control Change: encoding is correct and the scanner inverts it.
-/
import Midi.Proofs.CC14
namespace Midi.Props.C07
open Midi Midi.Spec

set_option linter.unusedVariables false in
/-- a message can be created exactly for MSB controller numbers 0–31 (any controller number 0–127) -/
theorem new_ok_iff (ch n v : Nat) (hn : n < 128) :
    CC14Msg.new ch n v = if n < 32 then .ok ⟨ch, n, v⟩ else .error .cc14MsbAssert := CC14Msg.new_eq ch n v

/-- accessors: LSB controller number = MSB controller number + 32, never panics on a valid message -/
theorem lsb_eq (m : CC14Msg) (hm : m.Valid) : m.lsb = .ok (m.msb + 32) := CC14Msg.lsb_eq m hm.2.1

/-- encoding: controller n with the high 7 bits, then controller n+32 with the low 7 bits, on the message's
    channel — as RawShortMessages and as StructuredShortMessages -/
theorem encode (m : CC14Msg) (hm : m.Valid) :
    m.toShortMessages rawFactory = .ok (specCC14Encoding m) ∧
    m.toShortMessages structuredFactory =
      .ok [.controlChange m.channel m.msb (m.value / 128), .controlChange m.channel (m.msb + 32) (m.value % 128)] ∧
    (∀ b ∈ specCC14Encoding m, b.Valid) := by
  have hb := specCC14Encoding_cc m hm
  refine ⟨?_, ?_, fun b h => (hb b h).1⟩
  · rw [CC14Msg.toShortMessages_ok rawFactory id m hm (fun _ _ => rfl), List.map_id]
  · exact CC14Msg.toShortMessages_ok structuredFactory (fun b => .controlChange m.channel b.d1 b.d2) m hm
      fun b h => structured_ofBytes_cc b (hb b h).1 m.channel hm.1 (hb b h).2

/-- a scanner state that some per-channel abstraction describes (every reachable state is one) -/
def WF (s : CCScanner) : Prop := ∃ f, CCAbsRel s f

theorem reachable_wf (ops : List Op) (hv : ∀ op ∈ ops, op.Valid) :
    ∃ s outs, ccRun CCScanner.new ops = .ok (s, outs) ∧ WF s := by
  obtain ⟨s, h, r⟩ := cc_run CCScanner.new [] ccRel_new ops hv
  exact ⟨s, _, h, _, r⟩

/-- Feeding the two encoded messages — whatever the scanner has been fed before (any WF state, hence any state
    reachable by any history) — yields nothing for the first and exactly the original message for the second. -/
theorem roundtrip (s : CCScanner) (hs : WF s) (m : CC14Msg) (hm : m.Valid) :
    ∃ s1 s2, s.feed rawImpl ⟨176 + m.channel, m.msb, m.value / 128⟩ = .ok (s1, none) ∧
      s1.feed rawImpl ⟨176 + m.channel, m.msb + 32, m.value % 128⟩ = .ok (s2, some m) ∧ WF s2 := by
  obtain ⟨f, hf⟩ := hs
  obtain ⟨hc, hn, hv⟩ := hm
  have v1 : (⟨176 + m.channel, m.msb, m.value / 128⟩ : Bytes).Valid := cc_valid _ _ _ hc (by omega) (by omega)
  have v2 : (⟨176 + m.channel, m.msb + 32, m.value % 128⟩ : Bytes).Valid := cc_valid _ _ _ hc (by omega) (by omega)
  obtain ⟨s1, h1, r1⟩ := cc_feed_abs s f hf _ v1
  obtain ⟨s2, h2, r2⟩ := cc_feed_abs s1 _ r1 _ v2
  have e : 176 + m.channel - 176 = m.channel := by omega
  refine ⟨s1, s2, ?_, ?_, _, r2⟩
  · rw [h1, just14_other _ _ (by show ¬ (_ ∧ _ ∧ 32 ≤ m.msb ∧ _); omega)]
  · rw [h2, e, msbStep_cc m.channel _ _ rfl, if_pos hn, just14_lsb _ _ _ _ hn hc, Nat.div_add_mod]

/-! non-vacuity -/
example : WF CCScanner.new := ⟨_, ccRel_new⟩
example : (⟨5, 2, 1057⟩ : CC14Msg).Valid ∧ specCC14Encoding ⟨5, 2, 1057⟩ = [⟨181, 2, 8⟩, ⟨181, 34, 33⟩] := by decide

end Midi.Props.C07
