/-
Property theorems restated for the code AS TRANSLATED from the Rust source by tools/rs2lean.py:
polling_parameter_number_message_scanner.rs (Midi/Gen/PollScan) — regenerated from /repo's working tree on every run.
Each theorem follows from the theorem about the hand-written model and the proved equivalence of the translated code
with that model (Midi/Proofs/Gen*.lean), so a change to the source file that alters behaviour breaks these theorems
even where no test input exposes it.
-/
import Midi.Proofs.GenPoll
import Midi.Proofs.PollRelabelRun
import Midi.Props.C12
import Midi.Props.C13
import Midi.Props.C14
import Midi.Props.C15
import Midi.Props.C16
import Midi.Props.C17

namespace Midi.Props.TPoll
open Midi Midi.Spec Midi.Gen Midi.GenTie Midi.GenTie.Poll

abbrev Scanner := PollScan.PollingParameterNumberMessageScanner

/-- the translated `new(timeout)` never panics; `default()` is `new` with a zero timeout (C17) -/
theorem default_is_new_zero : PollScan.PollingParameterNumberMessageScanner.new 0 = .ok default := by
  rw [new, default_eq]; rfl

/-- C12–C15 for the translated scanner: under ANY interleaving of valid feeds on all channels, polls, resets and time
    steps the translated `feed`/`poll`/`reset` never panic, and for every channel the results of the operations that
    concern it are exactly those of the per-channel machine `PChan.evs` (the object of the C12, C13 and C14 theorems)
    run alone on that channel's own events -/
theorem run_is_channelwise (c : Nat) (hc : c < 16) (now timeout : Nat) (ops : List TOp) (hv : ∀ op ∈ ops, op.Valid) :
    ∃ s0 now' s' outs, PollScan.PollingParameterNumberMessageScanner.new timeout = .ok s0 ∧
      grun now s0 ops = .ok (outs, (now', s')) ∧ outs.length = ops.length ∧
      outputsOn c now ops outs = (({ timeout := timeout } : PChan).evs c (project c now ops)).2 := by
  obtain ⟨n, s, outs, h, hl, _, ho⟩ := p_run_channel c hc now (PScanner.new timeout) ops hv
  refine ⟨gscanner (PScanner.new timeout), n, gscanner s, outs, new timeout, grun_of_pRun h, hl, ?_⟩
  rw [ho, PScanner.getElem_new timeout c hc]

/-- C14 for the translated scanner as a whole: under ANY interleaving of valid feeds on all 16 channels, polls, resets
    and time steps it never panics and, for every channel, the trace monitor of Spec/Monitor.lean (the property text as
    a history observer) accepts the sequence of (event of that channel, what the translated call returned) -/
theorem monitor_accepts (c : Nat) (hc : c < 16) (now timeout : Nat) (ops : List TOp) (hv : ∀ op ∈ ops, op.Valid) :
    ∃ s0 now' s' outs, PollScan.PollingParameterNumberMessageScanner.new timeout = .ok s0 ∧
      grun now s0 ops = .ok (outs, (now', s')) ∧
      ({} : Mon).accepts c timeout ((project c now ops).zip (outputsOn c now ops outs)) = true := by
  obtain ⟨n, s, outs, h, hacc⟩ := C14.monitor_accepts_scanner c hc now timeout ops hv
  exact ⟨gscanner (PScanner.new timeout), n, gscanner s, outs, new timeout, grun_of_pRun h, hacc⟩

/-- C12 for the translated scanner as a whole: in ANY interleaved history in which channel `c` sees a good schedule of a
    non-empty sentence of the documented grammar followed by a poll after the timeout, the translated `feed` / `poll`
    never panic and report for channel `c` exactly the intended messages, each once and in order -/
theorem sentences (c : Nat) (hc : c < 16) (now timeout t tEnd : Nat) (ops : List TOp) (hv : ∀ op ∈ ops, op.Valid)
    (bs : List Block) (hne : bs ≠ []) (hb : ∀ b ∈ bs, b.Valid) (sched : List Timed) (hg : Good timeout t bs sched)
    (hend : C12.lastTime sched + timeout ≤ tEnd)
    (hview : project c now ops = schedEvents sched ++ [.poll tEnd]) :
    ∃ s0 n s outs, PollScan.PollingParameterNumberMessageScanner.new timeout = .ok s0 ∧
      grun now s0 ops = .ok (outs, (n, s)) ∧ reports (outputsOn c now ops outs) = intended c bs := by
  obtain ⟨n, sh, outs, h, hr⟩ := C12.sentences_scanner c hc now timeout t tEnd ops hv bs hne hb sched hg hend hview
  exact ⟨gscanner (PScanner.new timeout), n, gscanner sh, outs, new timeout, grun_of_pRun h, hr⟩

/-- C13 for the translated scanner as a whole: after ANY interleaving from `new(timeout)`, the translated `poll(c)`
    returns a message only if a controller-6 message with that value was fed on channel `c` at least `timeout` before
    the poll; the message is that 7-bit data entry -/
theorem poll_justified (c : Nat) (hc : c < 16) (now timeout : Nat) (ops : List TOp) (hv : ∀ op ∈ ops, op.Valid) :
    ∃ s0 n s outs, PollScan.PollingParameterNumberMessageScanner.new timeout = .ok s0 ∧
      grun now s0 ops = .ok (outs, (n, s)) ∧
      ∀ s' m, s.poll c n = .ok (some m, s') →
        ∃ arr f, TOp.feed ⟨176 + c, 6, f⟩ ∈ ops ∧ timeout ≤ n - arr ∧ m.value = f ∧ m.is14Bit = false ∧
          m.dataType = .dataEntry := by
  obtain ⟨n, sh, outs, h, hj⟩ := C13.poll_justified_scanner c hc now timeout ops hv
  refine ⟨gscanner (PScanner.new timeout), n, gscanner sh, outs, new timeout, grun_of_pRun h, fun s' m hp => ?_⟩
  rw [poll, scanner_gscanner] at hp
  obtain ⟨r, hq, _⟩ := back_eq_ok hp
  exact hj r m hq

/-- C16 for the translated scanner, at any time, from EVERY state -/
theorem transparent (now : Nat) (s : Scanner) (b : Bytes) (hv : b.Valid) (hn : ¬ C16.contributesPN b) :
    s.feed rawImpl b now = .ok (#v[none, none], s) := by
  rw [feed, C16.transparent_polling now _ b hv hn]; simp [backWith, outv]

/-- C17 for the translated scanner: from every state whose channels carry the timeout `t` (all reachable ones do),
    `reset()` never panics and yields exactly `new(t)` -/
theorem reset_is_new (t : Nat) (s : Scanner) (h : C17.UniformTimeout t (scanner s)) :
    ∃ s0, PollScan.PollingParameterNumberMessageScanner.new t = .ok s0 ∧ s.reset = .ok ((), s0) := by
  refine ⟨gscanner (PScanner.new t), new t, ?_⟩
  rw [reset, C17.reset_eq_new_polling t _ h]

/-- C15 for the translated scanner -/
theorem isolation (c : Nat) (hc : c < 16) (now timeout : Nat) (ops : List TOp) (hv : ∀ op ∈ ops, op.Valid) :
    ∃ s0 n1 s1 o1 n2 s2 o2, PollScan.PollingParameterNumberMessageScanner.new timeout = .ok s0 ∧
      grun now s0 ops = .ok (o1, (n1, s1)) ∧
      grun now s0 (ops.filter (C15.topOnChannel c)) = .ok (o2, (n2, s2)) ∧
      outputsOn c now ops o1 = outputsOn c now (ops.filter (C15.topOnChannel c)) o2 := by
  obtain ⟨n1, s1, o1, n2, s2, o2, h1, h2, _, h4⟩ := C15.isolation_polling c hc now timeout ops hv
  exact ⟨gscanner (PScanner.new timeout), n1, gscanner s1, o1, n2, gscanner s2, o2, new timeout, grun_of_pRun h1,
    grun_of_pRun h2, h4⟩

/-- C14, data independence, for the translated polling scanner as a whole: under ANY interleaving of valid feeds on
    all 16 channels, polls, resets and time steps, relabelling the value byte of every Control Change by any `f`
    (into 0..127) never makes it panic and, on every channel, the results of the relabelled run are the
    `relabelMsg f`-images of the results of the original per-channel run, call by call. -/
theorem data_independent (f : Nat → Nat) (hf : ∀ v, v < 128 → f v < 128)
    (c : Nat) (hc : c < 16) (now timeout : Nat) (ops : List TOp) (hv : ∀ op ∈ ops, op.Valid) :
    ∃ s0 now' s' outs, PollScan.PollingParameterNumberMessageScanner.new timeout = .ok s0 ∧
      grun now s0 (ops.map (relabelTOp f)) = .ok (outs, (now', s')) ∧
      outputsOn c now (ops.map (relabelTOp f)) outs
        = ((({ timeout := timeout } : PChan).evs c (project c now ops)).2).map (relabelPOut f) := by
  obtain ⟨s0, now', s', outs, h0, h1, _, h3⟩ := run_is_channelwise c hc now timeout _ (relabelTOp_valid f hf ops hv)
  refine ⟨s0, now', s', outs, h0, h1, ?_⟩
  rw [h3, project_relabel f c hc]
  -- a fresh sub-scanner stores no byte: relabelling it changes nothing
  exact congrArg Prod.snd (C14.data_independent f hf c (project c now ops) (projectEv_valid c now ops hv)
    { timeout := timeout } PState.default_bytes7)

end Midi.Props.TPoll
