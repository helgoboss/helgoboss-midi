/-
Data independence of the polling scanner's per-channel machine: definitions (relabelling of states, events and
outputs) and step lemmas for Props/C14 `data_independent`.
-/
import Midi.Proofs.Polling
namespace Midi
open Midi.Spec

def NumberState.relabel (f : Nat → Nat) (ns : NumberState) : NumberState := { ns with msb := f ns.msb, lsb := f ns.lsb }

/-- the same state with every stored byte sent through `f` (arrival times, flags and the shape stay) -/
def PState.relabel (f : Nat → Nat) : PState → PState
  | .waitingForNumber first r m => .waitingForNumber (first.map f) r m
  | .waitingForFirstValue ns => .waitingForFirstValue (ns.relabel f)
  | .valuePending ns t first m => .valuePending (ns.relabel f) t (f first) m
  | .fourteenComplete ns a b => .fourteenComplete (ns.relabel f) (f a) (f b)

def relabelPOut (f : Nat → Nat) (o : POut) : POut := (o.1.map (relabelMsg f), o.2.map (relabelMsg f))

/-- relabelling the two bytes of a 14-bit number, as `relabelMsg` does it -/
theorem relabel14 (f : Nat → Nat) (hf : ∀ v, v < 128 → f v < 128) (a b : Nat) (ha : a < 128) (hb : b < 128) :
    128 * f (build14 a b / 128) + f (build14 a b % 128) = build14 (f a) (f b) := by
  have n1 : (128 * a + b) / 128 = a := by omega
  have n2 : (128 * a + b) % 128 = b := by omega
  rw [build14_eq' _ _ ha hb, build14_eq' _ _ (hf a ha) (hf b hb), n1, n2]

theorem relabel_seven (f : Nat → Nat) (hf : ∀ v, v < 128 → f v < 128) (ch a b v : Nat) (r : Bool) (d : DataType)
    (ha : a < 128) (hb : b < 128) :
    PNMsg.sevenBit ch (build14 (f a) (f b)) (f v) r d = relabelMsg f (PNMsg.sevenBit ch (build14 a b) v r d) := by
  simp [PNMsg.sevenBit, relabelMsg, relabel14 f hf a b ha hb]

theorem relabel_fourteen (f : Nat → Nat) (hf : ∀ v, v < 128 → f v < 128) (ch a b x y : Nat) (r : Bool)
    (ha : a < 128) (hb : b < 128) (hx : x < 128) (hy : y < 128) :
    PNMsg.fourteenBit ch (build14 (f a) (f b)) (build14 (f x) (f y)) r
      = relabelMsg f (PNMsg.fourteenBit ch (build14 a b) (build14 x y) r) := by
  simp [PNMsg.fourteenBit, relabelMsg, relabel14 f hf a b ha hb, relabel14 f hf x y hx hy]

/-- one Control Change through the per-channel state machine: relabelling the stored bytes and the value byte by
    `f` relabels the next state and the reported messages, and nothing else (time stamps included) -/
theorem onCC_relabel (f : Nat → Nat) (hf : ∀ v, v < 128 → f v < 128) (st : PState) (hs : st.Bytes7)
    (now ch cn cv : Nat) (hcv : cv < 128) :
    (st.relabel f).onCC now ch cn (f cv) = ((st.onCC now ch cn cv).1.relabel f, relabelPOut f (st.onCC now ch cn cv).2) := by
  refine PState.onCC_cases₂ (st.relabel f) st now now ch ch cn (f cv) cv
    (P := fun r' r => r' = (r.1.relabel f, relabelPOut f r.2)) ?_ ?_ ?_ ?_ (fun _ => rfl)
  · intro reg msb _
    rcases st with ⟨_ | b, r, _ | _⟩ | ⟨a, b, r⟩ | ⟨⟨a, b, r⟩, t, first, _ | _⟩ | ⟨⟨a, b, r⟩, x, y⟩ <;> cases msb <;>
      simp only [PState.Bytes7] at hs <;>
      simp [PState.processNumberByte, PState.relabel, relabelPOut, NumberState.relabel, NumberState.number,
        resolvePending, relabel_seven f hf, hs]
  · intro _
    rcases st with ⟨b, r, k⟩ | ⟨a, b, r⟩ | ⟨⟨a, b, r⟩, t, first, _ | _⟩ | ⟨⟨a, b, r⟩, x, y⟩ <;>
      simp only [PState.Bytes7] at hs <;>
      simp [PState.processValueLsb, PState.relabel, relabelPOut, NumberState.relabel, NumberState.number,
        completePending, relabel_fourteen f hf, hs, hcv]
  · intro _
    rcases st with ⟨b, r, k⟩ | ⟨a, b, r⟩ | ⟨⟨a, b, r⟩, t, first, _ | _⟩ | ⟨⟨a, b, r⟩, x, y⟩ <;>
      simp only [PState.Bytes7] at hs <;>
      simp [PState.processValueMsb, PState.relabel, relabelPOut, NumberState.relabel, NumberState.number,
        completePending, relabel_seven f hf, relabel_fourteen f hf, hs, hcv]
  · intro inc _
    rcases st with ⟨b, r, k⟩ | ⟨a, b, r⟩ | ⟨⟨a, b, r⟩, t, first, _ | _⟩ | ⟨⟨a, b, r⟩, x, y⟩ <;>
      simp only [PState.Bytes7] at hs <;>
      simp [PState.processValueIncDec, PState.relabel, relabelPOut, NumberState.relabel, NumberState.number,
        relabel_seven f hf, hs]

def PChan.relabel (f : Nat → Nat) (c : PChan) : PChan := { c with state := c.state.relabel f }

def relabelEv (f : Nat → Nat) : PEv → PEv
  | .cc cn cv now => .cc cn (f cv) now
  | e => e

theorem ev_relabel (f : Nat → Nat) (hf : ∀ v, v < 128 → f v < 128) (ch : Nat) (c : PChan) (hs : c.state.Bytes7)
    (e : PEv) (he : e.Valid) :
    (c.relabel f).ev ch (relabelEv f e) = (((c.ev ch e).1).relabel f, relabelPOut f (c.ev ch e).2)
      ∧ (c.ev ch e).1.state.Bytes7 := by
  cases e with
  | cc cn cv now =>
    simp only [PChan.ev, relabelEv, PChan.relabel, onCC_relabel f hf c.state hs now ch cn cv he]
    exact ⟨trivial, onCC_bytes7 c.state hs now ch cn cv he⟩
  | reset =>
    simp [PChan.ev, relabelEv, PChan.relabel, PState.default, PState.relabel, relabelPOut, PState.Bytes7]
  | poll now =>
    obtain ⟨to, st⟩ := c
    cases st with
    | valuePending ns t first m =>
      obtain ⟨a, b, r⟩ := ns
      simp only [PState.Bytes7] at hs
      have S := relabel_seven f hf ch a b first r .dataEntry hs.1 hs.2.1
      simp only [PChan.ev, relabelEv, PChan.relabel, PChan.poll, PState.relabel]
      by_cases hto : now - t < to <;> cases m <;>
        simp [hto, relabelPOut, resolvePending, NumberState.relabel, NumberState.number, S,
          PState.Bytes7, hs.1, hs.2.1, hs.2.2]
    | _ => simpa [PChan.ev, relabelEv, PChan.relabel, PChan.poll, PState.relabel, relabelPOut] using hs

end Midi
