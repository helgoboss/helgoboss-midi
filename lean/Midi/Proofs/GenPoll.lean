/-
The polling (N)RPN scanner as TRANSLATED from polling_parameter_number_message_scanner.rs (Midi.Gen.PollScan,
regenerated on every run; the clock is the explicit parameter `now`) computes exactly what the hand-written model
(Midi.Model.Polling) computes.
-/
import Midi.Gen.PollScan
import Midi.Proofs.GenTie
import Midi.Proofs.Polling
namespace Midi.GenTie
open Midi Midi.Spec Midi.Gen

namespace Poll
abbrev GChan := PollScan.ScannerForOneChannel
abbrev GScanner := PollScan.PollingParameterNumberMessageScanner
abbrev GState := PollScan.State

def ns (n : PollScan.NumberState) : NumberState := ⟨n.msb, n.lsb, n.is_registered⟩
def gns (n : NumberState) : PollScan.NumberState := ⟨n.msb, n.lsb, n.isRegistered⟩
@[simp] theorem gns_ns (n) : gns (ns n) = n := rfl
@[simp] theorem ns_gns (n) : ns (gns n) = n := rfl

def state : GState → PState
  | .WaitingForNumberCompletion w => .waitingForNumber w.first_number_byte w.is_registered w.is_msb
  | .WaitingForFirstValueByte n => .waitingForFirstValue (ns n)
  | .ValuePending p => .valuePending (ns p.number_state) p.arrival_time p.first_value_byte p.is_msb
  | .FourteenBitValueComplete f => .fourteenComplete (ns f.number_state) f.value_msb f.value_lsb
def gstate : PState → GState
  | .waitingForNumber a b c => .WaitingForNumberCompletion ⟨a, b, c⟩
  | .waitingForFirstValue n => .WaitingForFirstValueByte (gns n)
  | .valuePending n a f m => .ValuePending ⟨gns n, a, f, m⟩
  | .fourteenComplete n a b => .FourteenBitValueComplete ⟨gns n, a, b⟩
@[simp] theorem gstate_state (s) : gstate (state s) = s := by cases s <;> rfl
@[simp] theorem state_gstate (s) : state (gstate s) = s := by cases s <;> rfl

def chan (c : GChan) : PChan := ⟨c.timeout, state c.state⟩
def gchan (c : PChan) : GChan := ⟨c.timeout, gstate c.state⟩
@[simp] theorem gchan_chan (s : GChan) : gchan (chan s) = s := by simp [gchan, chan]
@[simp] theorem chan_gchan (s : PChan) : chan (gchan s) = s := by simp [gchan, chan]
def scanner (s : GScanner) : PScanner := s.scanner_by_channel.map chan
def gscanner (s : PScanner) : GScanner := ⟨s.map gchan⟩
@[simp] theorem gscanner_scanner (s : GScanner) : gscanner (scanner s) = s :=
  congrArg (⟨·⟩ : _ → GScanner) (map_map_inv gchan_chan s.scanner_by_channel)
@[simp] theorem scanner_gscanner (s : PScanner) : scanner (gscanner s) = s := map_map_inv chan_gchan s

/-- the two result slots of `feed` -/
def outv (o : POut) : Vector (Option PNMsg) 2 := #v[o.1, o.2]

theorem number (n : PollScan.NumberState) : n.number = .ok (ns n).number := rfl

theorem resolve (p : PollScan.ValuePendingState) (ch : Nat) :
    p.resolve ch = .ok (resolvePending ch (ns p.number_state) p.first_value_byte p.is_msb) := by
  unfold PollScan.ValuePendingState.resolve resolvePending
  cases p.is_msb <;> rfl

/-- a `&mut self` step of the per-channel scanner in terms of a pure step of the hand-written state -/
def lift (c : GChan) (r : PState × Option PNMsg) : Res (Option PNMsg × GChan) := .ok (r.2, { c with state := gstate r.1 })
def lift2 (c : GChan) (r : PState × POut) : Res (Vector (Option PNMsg) 2 × GChan) := .ok (outv r.2, { c with state := gstate r.1 })

theorem process_number_byte (c : GChan) (byte : Nat) (reg msb : Bool) (ch : Nat) :
    c.process_number_byte byte reg msb ch = lift c ((state c.state).processNumberByte byte reg msb ch) := by
  obtain ⟨t, st⟩ := c
  unfold PollScan.ScannerForOneChannel.process_number_byte
  cases st with
  | WaitingForNumberCompletion w =>
    obtain ⟨f, r, m⟩ := w
    cases f with
    | none => rfl
    | some v => cases m <;> cases msb <;> rfl
  | WaitingForFirstValueByte n => cases msb <;> rfl
  | ValuePending p =>
    simp only [state, PState.processNumberByte, lift, gstate, resolve, bind, Except.bind]
    cases msb <;> rfl
  | FourteenBitValueComplete f => cases msb <;> rfl

theorem process_number_lsb (c : GChan) (byte : Nat) (reg : Bool) (ch : Nat) :
    c.process_number_lsb byte reg ch = lift c ((state c.state).processNumberByte byte reg false ch) := by
  unfold PollScan.ScannerForOneChannel.process_number_lsb
  rw [process_number_byte]; rfl

theorem process_number_msb (c : GChan) (byte : Nat) (reg : Bool) (ch : Nat) :
    c.process_number_msb byte reg ch = lift c ((state c.state).processNumberByte byte reg true ch) := by
  unfold PollScan.ScannerForOneChannel.process_number_msb
  rw [process_number_byte]; rfl

theorem process_value_lsb (c : GChan) (ch v now : Nat) :
    c.process_value_lsb ch v now = lift c ((state c.state).processValueLsb now ch v) := by
  obtain ⟨t, st⟩ := c
  cases st <;> try rfl
  -- a pending value: by its `is_msb` flag
  rename_i p
  obtain ⟨n, a, f, m⟩ := p
  cases m <;> rfl

theorem process_value_msb (c : GChan) (ch v now : Nat) :
    c.process_value_msb ch v now = lift c ((state c.state).processValueMsb now ch v) := by
  obtain ⟨t, st⟩ := c
  cases st <;> try rfl
  rename_i p
  obtain ⟨n, a, f, m⟩ := p
  cases m <;> rfl

theorem process_value_inc_dec (c : GChan) (ch : Nat) (dt : DataType) (v : Nat) :
    c.process_value_inc_dec ch dt v = lift2 c ((state c.state).processValueIncDec ch dt v) := by
  obtain ⟨t, st⟩ := c
  cases st <;> try rfl
  rename_i p
  obtain ⟨n, a, f, m⟩ := p
  cases m <;> rfl

/-- hand-model feed results `(state, (out1, out2))` in the translated shape -/
abbrev back2 {σ τ : Type} (f : σ → τ) (r : Res (σ × POut)) : Res (Vector (Option PNMsg) 2 × τ) := backWith outv f r

theorem chan_feed {α : Type} (I : Impl α) (c : GChan) (x : α) (now : Nat) :
    c.feed I x now = back2 gchan (PChan.feed I now (chan c) x) := by
  have idle : Except.ok (#v[none, none], c) = back2 gchan (.ok (chan c, (none, none))) :=
    congrArg (fun c' => Except.ok (#v[none, none], c')) (gchan_chan c).symm
  unfold PollScan.ScannerForOneChannel.feed PChan.feed
  rcases toStructured I x with e | m <;> try rfl
  cases m
  case controlChange channel cn cv =>
    simp only [bind, Except.bind, process_number_lsb, process_number_msb, process_value_lsb, process_value_msb,
      process_value_inc_dec, chan, backWith]
    rcases cn_cases cn with h | hc
    · rcases h with rfl | rfl | rfl | rfl | rfl | rfl | rfl | rfl <;> rfl
    · have hne : cn ≠ 98 ∧ cn ≠ 99 ∧ cn ≠ 100 ∧ cn ≠ 101 ∧ cn ≠ 38 ∧ cn ≠ 6 ∧ cn ≠ 96 ∧ cn ≠ 97 := by omega
      simp only [hne, if_false, (state c.state).onCC_other now channel cn cv hc]
      exact idle
  all_goals exact idle

theorem chan_poll (c : GChan) (ch now : Nat) :
    c.poll ch now = back gchan (.ok (PChan.poll now (chan c) ch)) := by
  obtain ⟨t, st⟩ := c
  unfold PollScan.ScannerForOneChannel.poll PChan.poll
  cases st with
  | WaitingForNumberCompletion w => rfl
  | WaitingForFirstValueByte n => rfl
  | FourteenBitValueComplete f => rfl
  | ValuePending p =>
    obtain ⟨n, a, f, m⟩ := p
    simp only [chan, state, gchan, resolve, bind, Except.bind, back]
    by_cases h : now - a < t <;> simp [h, gstate]

theorem chan_reset (c : GChan) : c.reset = .ok ((), gchan { chan c with state := PState.default }) := rfl

theorem feed {α : Type} (I : Impl α) (s : GScanner) (x : α) (now : Nat) :
    s.feed I x now = back2 gscanner (PScanner.feed I now (scanner s) x) := by
  rw [PScanner.feed_eq]
  refine .trans ?_ (groute_eq gchan_chan (⟨·⟩ : _ → GScanner) outv (none, none) _ (fun t => chan_feed I t x now) _)
  unfold PollScan.PollingParameterNumberMessageScanner.feed groute
  rcases channel I x with _ | _ | _ <;> rfl

theorem poll (s : GScanner) (ch now : Nat) :
    s.poll ch now = back gscanner (PScanner.poll now (scanner s) ch) :=
  groute_back gchan_chan (⟨·⟩ : _ → GScanner) none (.ok (some ch)) (f := fun c => .ok (c.poll now ch))
    (fun t => chan_poll t ch now) s.scanner_by_channel

theorem reset (s : GScanner) : s.reset = .ok ((), gscanner (scanner s).reset) :=
  reset_back (⟨·⟩ : _ → GScanner) s.scanner_by_channel fun _ => rfl

theorem new (timeout : Nat) : PollScan.PollingParameterNumberMessageScanner.new timeout = .ok (gscanner (PScanner.new timeout)) := by
  rw [gscanner, PScanner.new, Vector.map_replicate]; rfl

theorem default_eq : (default : GScanner) = gscanner PScanner.default := by
  rw [gscanner, PScanner.default, Vector.map_replicate]; rfl

/-- one operation on the translated scanner at time `now` -/
def gstep (now : Nat) (s : GScanner) : TOp → Res (POut × (Nat × GScanner))
  | .feed b => do let (o, s') ← s.feed rawImpl b now; .ok ((o[0], o[1]), (now, s'))
  | .poll ch => do let (o, s') ← s.poll ch now; .ok ((o, none), (now, s'))
  | .reset => do let (_, s') ← s.reset; .ok ((none, none), (now, s'))
  | .tick d => .ok ((none, none), (now + d, s))

def grun (now : Nat) (s : GScanner) : List TOp → Res (List POut × (Nat × GScanner))
  | [] => .ok ([], (now, s))
  | op :: ops => do
    let (o, ns) ← gstep now s op
    let (os, ns') ← grun ns.1 ns.2 ops
    .ok (o :: os, ns')

def gtimed (p : Nat × PScanner) : Nat × GScanner := (p.1, gscanner p.2)

theorem gstep_eq (now : Nat) (s : GScanner) (op : TOp) :
    gstep now s op = back gtimed (pStep now (scanner s) op) := by
  cases op with
  | feed b =>
    simp only [gstep, pStep, feed, bind, Except.bind]
    cases PScanner.feed rawImpl now (scanner s) b <;> rfl
  | poll ch =>
    simp only [gstep, pStep, poll, bind, Except.bind]
    cases PScanner.poll now (scanner s) ch <;> rfl
  | reset => simp only [gstep, pStep, reset, bind, Except.bind]; rfl
  | tick d => simp only [gstep, pStep, back, gtimed, gscanner_scanner]

/-- `run_back` where the state of a run is the clock with the scanner (as a term against the rewritten goal: after
    `rw [pRun_eq]` the same `exact` costs the unifier thirty times as much) -/
theorem grun_eq (now : Nat) (s : GScanner) (ops : List TOp) :
    grun now s ops = back gtimed (pRun now (scanner s) ops) :=
  pRun_eq .. ▸ run_back (f := fun ns => (ns.1, scanner ns.2)) (g := gtimed) (grun := fun ns => grun ns.1 ns.2)
    (fun _ => by simp [gtimed]) (fun _ => by simp [gtimed]) (fun ns => gstep_eq ns.1 ns.2)
    (fun _ => rfl) (fun _ _ _ => rfl) (now, s) ops

/-- a run of the hand model is a run of the translated scanner -/
theorem grun_of_pRun {now : Nat} {s : PScanner} {ops : List TOp} {n : Nat} {s' : PScanner} {outs : List POut}
    (h : pRun now s ops = .ok ((n, s'), outs)) : grun now (gscanner s) ops = .ok (outs, (n, gscanner s')) := by
  rw [grun_eq, scanner_gscanner, h]; rfl

end Poll
end Midi.GenTie
