/- The (N)RPN scanner against its history specification (helper lemmas for C04S, C10, C11, C15, C16). -/
import Midi.Proofs.CC14
namespace Midi
open Midi.Spec

theorem pn_onCC_other (st : PNChan) (ch cn cv : Nat) (h : ¬ (cn = 6 ∨ cn = 38 ∨ (96 ≤ cn ∧ cn ≤ 101))) :
    st.onCC ch cn cv = .ok (st, none) := by
  unfold PNChan.onCC
  -- the eight arms with a literal controller number contradict `h`; the last arm is the claim
  split <;> first | omega | rfl

/-- the four history functions of C11, bundled -/
structure PNAbs where
  hi : Option Nat
  lo : Option Nat
  reg : Bool
  l38 : Option Nat

def PNAbs.toChan (a : PNAbs) : PNChan := ⟨a.hi, a.lo, a.reg, a.l38⟩
def PNAbs.step (c : Nat) (a : PNAbs) (op : Op) : PNAbs :=
  ⟨numMsbStep c a.hi op, numLsbStep c a.lo op, regStep c a.reg op, v38Step c a.l38 op⟩
def PNAbs.of (past : List Op) (c : Nat) : PNAbs := ⟨numMsb past c, numLsb past c, regOf past c, v38Of past c⟩
def PNAbs.Bounded (a : PNAbs) : Prop :=
  (∀ v, a.hi = some v → v < 128) ∧ (∀ v, a.lo = some v → v < 128) ∧ (∀ v, a.l38 = some v → v < 128)

theorem pnAbs_foldl (c : Nat) (past : List Op) (a : PNAbs) :
    past.foldl (PNAbs.step c) a = ⟨past.foldl (numMsbStep c) a.hi, past.foldl (numLsbStep c) a.lo,
      past.foldl (regStep c) a.reg, past.foldl (v38Step c) a.l38⟩ := by
  induction past generalizing a with
  | nil => rfl
  | cons _ _ ih => exact ih _

/-- the bundle is itself a fold over the history -/
theorem pnAbs_of_foldl (past : List Op) (c : Nat) :
    PNAbs.of past c = past.foldl (PNAbs.step c) ⟨none, none, false, none⟩ :=
  (pnAbs_foldl c past ⟨none, none, false, none⟩).symm

theorem pnAbs_snoc (past : List Op) (op : Op) (c : Nat) : PNAbs.of (past ++ [op]) c = (PNAbs.of past c).step c op := by
  simp only [pnAbs_of_foldl, List.foldl_append, List.foldl_cons, List.foldl_nil]

theorem pnAbs_step_other (c : Nat) (a : PNAbs) (b : Bytes) (h : b.status ≠ 176 + c) : a.step c (.feed b) = a := by
  simp [PNAbs.step, numMsbStep, numLsbStep, regStep, v38Step, ccOn, h]

theorem pnAbs_step_cc (c : Nat) (a : PNAbs) (b : Bytes) (h : b.status = 176 + c) :
    a.step c (.feed b) =
      if b.d1 = 99 ∨ b.d1 = 101 then ⟨some b.d2, a.lo, b.d1 = 101, none⟩
      else if b.d1 = 98 ∨ b.d1 = 100 then ⟨a.hi, some b.d2, b.d1 = 100, none⟩
      else if b.d1 = 38 then { a with l38 := some b.d2 }
      else a := by
  obtain ⟨s, n, v⟩ := b
  subst h
  simp only [PNAbs.step, numMsbStep, numLsbStep, regStep, v38Step, ccOn, isNumberMsbCn, isNumberLsbCn,
    beq_self_eq_true, Bool.true_and]
  by_cases h1 : n = 99 ∨ n = 101
  · rcases h1 with rfl | rfl <;> rfl
  · by_cases h2 : n = 98 ∨ n = 100
    · rcases h2 with rfl | rfl <;> rfl
    · have : (n == 99) = false ∧ (n == 101) = false ∧ (n == 98) = false ∧ (n == 100) = false := by
        simp only [beq_eq_false_iff_ne]; omega
      simp only [this, if_neg h1, if_neg h2, Bool.or_self, Bool.false_eq_true, if_false, beq_iff_eq]
      split <;> rfl

theorem pnAbs_step_numMsb (c : Nat) (a : PNAbs) (b : Bytes) (h : b.status = 176 + c) (hn : b.d1 = 99 ∨ b.d1 = 101) :
    a.step c (.feed b) = ⟨some b.d2, a.lo, b.d1 = 101, none⟩ := by
  rw [pnAbs_step_cc c a b h, if_pos hn]
theorem pnAbs_step_numLsb (c : Nat) (a : PNAbs) (b : Bytes) (h : b.status = 176 + c) (hn : b.d1 = 98 ∨ b.d1 = 100) :
    a.step c (.feed b) = ⟨a.hi, some b.d2, b.d1 = 100, none⟩ := by
  rw [pnAbs_step_cc c a b h, if_neg (by omega), if_pos hn]
theorem pnAbs_step_v38 (c : Nat) (a : PNAbs) (b : Bytes) (h : b.status = 176 + c) (hn : b.d1 = 38) :
    a.step c (.feed b) = { a with l38 := some b.d2 } := by
  rw [pnAbs_step_cc c a b h, if_neg (by omega), if_neg (by omega), if_pos hn]
theorem pnAbs_step_data (c : Nat) (a : PNAbs) (b : Bytes) (h : b.status = 176 + c)
    (hn : b.d1 ≠ 38 ∧ (b.d1 < 98 ∨ 101 < b.d1)) : a.step c (.feed b) = a := by
  rw [pnAbs_step_cc c a b h, if_neg (by omega), if_neg (by omega), if_neg (by omega)]

theorem pnAbs_step_bounded (c : Nat) (a : PNAbs) (hb : a.Bounded) (op : Op) (hv : op.Valid) : (a.step c op).Bounded := by
  obtain ⟨b1, b2, b3⟩ := hb
  cases op with
  | reset => exact ⟨nofun, nofun, nofun⟩
  | feed b =>
    have hd2 : ∀ v, some b.d2 = some v → v < 128 := fun v e => Option.some.inj e ▸ hv.2.2.2
    by_cases h : b.status = 176 + c
    · rw [pnAbs_step_cc c a b h]
      split
      · exact ⟨hd2, b2, nofun⟩
      · split
        · exact ⟨b1, hd2, nofun⟩
        · split
          · exact ⟨b1, b2, hd2⟩
          · exact ⟨b1, b2, b3⟩
    · rw [pnAbs_step_other c a b h]; exact ⟨b1, b2, b3⟩

/-- `justifiedPN` with the history abstraction made explicit -/
def justPN (a : PNAbs) (m : Bytes) : Option PNMsg :=
  if 176 ≤ m.status ∧ m.status < 192 ∧ (m.d1 = 6 ∨ m.d1 = 96 ∨ m.d1 = 97) then
    let c := m.status - 176
    match a.hi, a.lo with
    | some hi, some lo =>
      let number := 128 * hi + lo
      if m.d1 = 96 then some ⟨c, number, m.d2, a.reg, false, .dataIncrement⟩
      else if m.d1 = 97 then some ⟨c, number, m.d2, a.reg, false, .dataDecrement⟩
      else match a.l38 with
        | some l => some ⟨c, number, 128 * m.d2 + l, a.reg, true, .dataEntry⟩
        | none => some ⟨c, number, m.d2, a.reg, false, .dataEntry⟩
    | _, _ => none
  else none

theorem justifiedPN_eq (past : List Op) (m : Bytes) : justifiedPN past m = justPN (PNAbs.of past (m.status - 176)) m := rfl

theorem justPN_other (a : PNAbs) (b : Bytes)
    (h : ¬ (176 ≤ b.status ∧ b.status < 192 ∧ (b.d1 = 6 ∨ b.d1 = 96 ∨ b.d1 = 97))) : justPN a b = none := if_neg h

theorem justPN_not_cc (a : PNAbs) (b : Bytes) (h : ¬ (176 ≤ b.status ∧ b.status < 192)) : justPN a b = none :=
  justPN_other a b fun h' => h ⟨h'.1, h'.2.1⟩

/-- the message that a data byte (controller `n` = 6, 96 or 97 with value `v`) completes.  `justPN` looks at the number
    first and at the controller then, `PNChan.onCC` the other way round; with the message as one function of the
    controller both read "`some (pnReport ..)` if the number is complete" (`justPN_eq`, `pnChan_onCC_data`). -/
def pnReport (c number : Nat) (reg : Bool) (l38 : Option Nat) (n v : Nat) : PNMsg :=
  if n = 96 then ⟨c, number, v, reg, false, .dataIncrement⟩
  else if n = 97 then ⟨c, number, v, reg, false, .dataDecrement⟩
  else match l38 with
    | some l => ⟨c, number, 128 * v + l, reg, true, .dataEntry⟩
    | none => ⟨c, number, v, reg, false, .dataEntry⟩

theorem pnReport_fields (c number : Nat) (reg : Bool) (l38 : Option Nat) (n v : Nat) :
    (pnReport c number reg l38 n v).channel = c ∧ (pnReport c number reg l38 n v).number = number ∧
      (pnReport c number reg l38 n v).isRegistered = reg := by
  unfold pnReport
  (repeat' split) <;> exact ⟨rfl, rfl, rfl⟩

theorem pnReport_valid (c number : Nat) (reg : Bool) (l38 : Option Nat) (n v : Nat) (hc : c < 16)
    (hn : number < 16384) (hl : ∀ l, l38 = some l → l < 128) (hv : v < 128) :
    (pnReport c number reg l38 n v).Valid := by
  unfold pnReport
  split
  · exact ⟨hc, hn, hv⟩
  · split
    · exact ⟨hc, hn, hv⟩
    · cases l38 with
      | none => exact ⟨hc, hn, hv⟩
      | some l => exact ⟨hc, hn, by have := hl l rfl; show 128 * v + l < 16384; omega, rfl⟩

theorem justPN_eq (a : PNAbs) (b : Bytes) :
    justPN a b =
      if 176 ≤ b.status ∧ b.status < 192 ∧ (b.d1 = 6 ∨ b.d1 = 96 ∨ b.d1 = 97) then
        match a.hi, a.lo with
        | some hi, some lo => some (pnReport (b.status - 176) (128 * hi + lo) a.reg a.l38 b.d1 b.d2)
        | _, _ => none
      else none := by
  unfold justPN pnReport
  split
  · -- an incomplete number: `none` on both sides
    cases a.hi <;> cases a.lo <;> try rfl
    simp only
    split
    · rfl
    · split
      · rfl
      · cases a.l38 <;> rfl
  · rfl

theorem justPN_data (c : Nat) (hc : c < 16) (hi lo : Nat) (reg : Bool) (l38 : Option Nat) (n v : Nat)
    (hn : n = 6 ∨ n = 96 ∨ n = 97) :
    justPN ⟨some hi, some lo, reg, l38⟩ ⟨176 + c, n, v⟩ = some (pnReport c (128 * hi + lo) reg l38 n v) := by
  rw [justPN_eq, if_pos ⟨by show 176 ≤ 176 + c; omega, by show 176 + c < 192; omega, hn⟩, Nat.add_sub_cancel_left]

theorem pnReport_none (c number : Nat) (reg : Bool) (n v : Nat) :
    pnReport c number reg none n v =
      ⟨c, number, v, reg, false, if n = 96 then .dataIncrement else if n = 97 then .dataDecrement else .dataEntry⟩ := by
  unfold pnReport
  split
  · rfl
  · split <;> rfl

theorem justPN_some {a : PNAbs} {b : Bytes} {m : PNMsg} (h : justPN a b = some m) :
    (176 ≤ b.status ∧ b.status < 192 ∧ (b.d1 = 6 ∨ b.d1 = 96 ∨ b.d1 = 97)) ∧
      ∃ hi lo, a.hi = some hi ∧ a.lo = some lo ∧
        m = pnReport (b.status - 176) (128 * hi + lo) a.reg a.l38 b.d1 b.d2 := by
  rw [justPN_eq] at h
  split at h
  · next hc =>
    refine ⟨hc, ?_⟩
    split at h
    · next hi lo h1 h2 => cases h; exact ⟨hi, lo, h1, h2, rfl⟩
    · cases h
  · cases h

theorem pnChan_onCC_data (a : PNAbs) (hb : a.Bounded) (c n v : Nat) (hv : v < 128) (hn : n = 6 ∨ n = 96 ∨ n = 97) :
    a.toChan.onCC c n v = .ok (a.toChan,
      match a.hi, a.lo with
      | some hi, some lo => some (pnReport c (128 * hi + lo) a.reg a.l38 n v)
      | _, _ => none) := by
  obtain ⟨hi, lo, reg, l38⟩ := a
  obtain ⟨b1, b2, b3⟩ := hb
  cases hi with
  | none => rcases hn with rfl | rfl | rfl <;> cases lo <;> rfl
  | some h =>
    cases lo with
    | none => rcases hn with rfl | rfl | rfl <;> rfl
    | some l =>
      have e := build14_eq' h l (b1 h rfl) (b2 l rfl)
      rcases hn with rfl | rfl | rfl
      · cases l38 with
        | none => simp only [PNAbs.toChan, PNChan.onCC, PNChan.buildNumber, e]; rfl
        | some w =>
          simp only [PNAbs.toChan, PNChan.onCC, PNChan.buildNumber, e, build14_eq' _ _ hv (b3 w rfl)]; rfl
      all_goals simp only [PNAbs.toChan, PNChan.onCC, PNChan.buildNumber, e]; rfl

theorem pnChan_step (a : PNAbs) (hb : a.Bounded) (b : Bytes) (hv : b.Valid)
    (hlo : 176 ≤ b.status) (hhi : b.status < 192) :
    a.toChan.onCC (b.status - 176) b.d1 b.d2 = .ok ((a.step (b.status - 176) (.feed b)).toChan, justPN a b) ∧
      (a.step (b.status - 176) (.feed b)).Bounded := by
  refine ⟨?_, pnAbs_step_bounded _ a hb (.feed b) hv⟩
  have hs : b.status = 176 + (b.status - 176) := by omega
  rw [justPN_eq]
  by_cases hd : b.d1 = 6 ∨ b.d1 = 96 ∨ b.d1 = 97
  · rw [pnAbs_step_data _ a b hs (by omega), if_pos ⟨hlo, hhi, hd⟩]
    exact pnChan_onCC_data a hb _ _ _ hv.2.2.2 hd
  · rw [if_neg (fun h => hd h.2.2)]
    by_cases hm : b.d1 = 99 ∨ b.d1 = 101
    · rw [pnAbs_step_numMsb _ a b hs hm]
      rcases hm with h | h <;> rw [h] <;> rfl
    · by_cases hl : b.d1 = 98 ∨ b.d1 = 100
      · rw [pnAbs_step_numLsb _ a b hs hl]
        rcases hl with h | h <;> rw [h] <;> rfl
      · by_cases h38 : b.d1 = 38
        · rw [pnAbs_step_v38 _ a b hs h38, h38]; rfl
        · rw [pnAbs_step_data _ a b hs (by omega), pn_onCC_other _ _ _ _ (by omega)]

/-- the scanner state is described by an abstraction `f` (per channel: the four stored items); this is
    `Described PNAbs.toChan PNAbs.Bounded s f` written out -/
def PNAbsRel (s : PNScanner) (f : Nat → PNAbs) : Prop :=
  ∀ c (h : c < 16), s[c] = (f c).toChan ∧ (f c).Bounded

def PNRel (s : PNScanner) (past : List Op) : Prop := PNAbsRel s (PNAbs.of past)

theorem pnRel_new : PNRel PNScanner.new [] := by
  intro c h
  simp [PNScanner.new, PNAbs.of, PNAbs.toChan, numMsb, numLsb, regOf, v38Of, PNAbs.Bounded]

theorem pn_feed_abs (s : PNScanner) (f : Nat → PNAbs) (hr : PNAbsRel s f) (b : Bytes) (hv : b.Valid) :
    ∃ s', s.feed rawImpl b = .ok (s', justPN (f (b.status - 176)) b) ∧
      PNAbsRel s' (fun c => (f c).step c (.feed b)) :=
  routeFeed_abs PNAbs.toChan PNAbs.Bounded none PNChan.onCC PNAbs.step justPN
    (fun a b hb hv => pnChan_step a hb b hv)
    pnAbs_step_other justPN_not_cc s f hr b hv

/-! ### runs from ANY abstractly described state (used by C10) -/

def absAfterPN (f : Nat → PNAbs) : List Op → (Nat → PNAbs)
  | [] => f
  | op :: ops => absAfterPN (fun c => (f c).step c op) ops

def absOutPN (f : Nat → PNAbs) : Op → Option PNMsg
  | .feed b => justPN (f (b.status - 176)) b
  | .reset => none

def absOutsPN (f : Nat → PNAbs) : List Op → List (Option PNMsg)
  | [] => []
  | op :: ops => absOutPN f op :: absOutsPN (fun c => (f c).step c op) ops

theorem pn_step_abs (s : PNScanner) (f : Nat → PNAbs) (hr : PNAbsRel s f) (op : Op) (hv : op.Valid) :
    ∃ s', pnStep s op = .ok (s', absOutPN f op) ∧ PNAbsRel s' (fun c => (f c).step c op) := by
  cases op with
  | feed b => exact pn_feed_abs s f hr b hv
  | reset =>
    refine ⟨s.reset, rfl, ?_⟩
    intro c h
    simp [PNScanner.reset, PNAbs.step, PNAbs.toChan, numMsbStep, numLsbStep, regStep, v38Step, PNAbs.Bounded]

theorem absPN_eq (f : Nat → PNAbs) (ops : List Op) :
    absOutsPN f ops = traceOuts (fun f op c => (f c).step c op) absOutPN f ops ∧
      absAfterPN f ops = ops.foldl (fun f op c => (f c).step c op) f := by
  induction ops generalizing f with
  | nil => exact ⟨rfl, rfl⟩
  | cons op ops ih => exact ⟨congrArg _ (ih _).1, (ih _).2⟩

theorem pn_run_abs (s : PNScanner) (f : Nat → PNAbs) (hr : PNAbsRel s f) (ops : List Op) (hv : ∀ op ∈ ops, op.Valid) :
    ∃ s', pnRun s ops = .ok (s', absOutsPN f ops) ∧ PNAbsRel s' (absAfterPN f ops) := by
  rw [pnRun_eq, (absPN_eq f ops).1, (absPN_eq f ops).2]
  exact runM_sim pnStep PNAbsRel _ absOutPN Op.Valid pn_step_abs s f hr ops hv

theorem pn_step (s : PNScanner) (past : List Op) (hr : PNRel s past) (op : Op) (hv : op.Valid) :
    ∃ s', pnStep s op = .ok (s', expectPN past op) ∧ PNRel s' (past ++ [op]) := by
  obtain ⟨s', h1, h2⟩ := pn_step_abs s (PNAbs.of past) hr op hv
  exact ⟨s', h1, fun c hc => pnAbs_snoc past op c ▸ h2 c hc⟩

theorem expectedPN_eq (pre ops : List Op) :
    expectedPN pre ops = traceOuts (fun p x => p ++ [x]) (fun p => expectOf none justPN (PNAbs.of p)) pre ops := by
  induction ops generalizing pre with
  | nil => rfl
  | cons op ops ih => rw [expectedPN, traceOuts, ih]; rfl

theorem pn_run (s : PNScanner) (pre : List Op) (hr : PNRel s pre) (ops : List Op) (hv : ∀ op ∈ ops, op.Valid) :
    ∃ s', pnRun s ops = .ok (s', expectedPN pre ops) ∧ PNRel s' (pre ++ ops) := by
  -- the abstract state of the simulation is the past itself, moved by appending the operation
  rw [pnRun_eq, expectedPN_eq, ← foldl_snoc pre ops]
  exact runM_sim pnStep PNRel _ _ Op.Valid pn_step s pre hr ops hv

/-! ### streams on one channel (C10) -/

/-- outputs of one channel's abstraction over a list of messages -/
def chanOutsPN (c : Nat) (a : PNAbs) : List Bytes → List (Option PNMsg)
  | [] => []
  | b :: bs => justPN a b :: chanOutsPN c (a.step c (.feed b)) bs

def chanAfterPN (c : Nat) (a : PNAbs) : List Bytes → PNAbs
  | [] => a
  | b :: bs => chanAfterPN c (a.step c (.feed b)) bs

theorem absOuts_single_channel (c : Nat) (f : Nat → PNAbs) (bs : List Bytes) (hb : ∀ b ∈ bs, b.status = 176 + c) :
    absOutsPN f (bs.map .feed) = chanOutsPN c (f c) bs ∧ absAfterPN f (bs.map .feed) c = chanAfterPN c (f c) bs := by
  induction bs generalizing f with
  | nil => exact ⟨rfl, rfl⟩
  | cons b bs ih =>
    have hbs := hb b (List.mem_cons_self)
    have e : b.status - 176 = c := by omega
    have := ih (fun c' => (f c').step c' (.feed b)) (fun x hx => hb x (List.mem_cons_of_mem _ hx))
    simp only [List.map, absOutsPN, absOutPN, chanOutsPN, absAfterPN, chanAfterPN, e]
    exact ⟨by rw [this.1], this.2⟩

theorem chanOutsPN_append (c : Nat) (a : PNAbs) (xs ys : List Bytes) :
    chanOutsPN c a (xs ++ ys) = chanOutsPN c a xs ++ chanOutsPN c (chanAfterPN c a xs) ys := by
  induction xs generalizing a with
  | nil => rfl
  | cons x xs ih => simp [chanOutsPN, chanAfterPN, ih]

/-! ### data independence (C11), as for the 14-bit scanner -/

def PNAbs.relabel (f : Nat → Nat) (a : PNAbs) : PNAbs := ⟨a.hi.map f, a.lo.map f, a.reg, a.l38.map f⟩

theorem pnAbs_step_relabel (f : Nat → Nat) (c : Nat) (hc : c < 16) (a : PNAbs) (op : Op) :
    (a.relabel f).step c (relabelOp f op) = (a.step c op).relabel f := by
  cases op with
  | reset => rfl
  | feed b =>
    by_cases h : b.status = 176 + c
    · rw [relabelOp, relabelB_cc f b (by omega), pnAbs_step_cc c a b h, pnAbs_step_cc c (a.relabel f) ⟨b.status, b.d1, f b.d2⟩ h]
      (repeat' split) <;> rfl
    · rw [relabelOp, pnAbs_step_other c a b h, pnAbs_step_other c _ _ (relabelB_status f b ▸ h)]

theorem pnAbs_of_relabel (f : Nat → Nat) (c : Nat) (hc : c < 16) (past : List Op) :
    PNAbs.of (past.map (relabelOp f)) c = (PNAbs.of past c).relabel f := by
  rw [pnAbs_of_foldl, pnAbs_of_foldl]
  exact foldl_relabel (PNAbs.relabel f) (PNAbs.step c) f (pnAbs_step_relabel f c hc) past ⟨none, none, false, none⟩

theorem pnAbs_of_bounded (c : Nat) (past : List Op) (hp : ∀ op ∈ past, op.Valid) : (PNAbs.of past c).Bounded := by
  rw [pnAbs_of_foldl]
  exact foldl_inv PNAbs.Bounded (PNAbs.step c) (fun a op hv hb => pnAbs_step_bounded c a hb op hv) past hp _
    ⟨nofun, nofun, nofun⟩

def optLt (o : Option Nat) : Prop := ∀ v, o = some v → v < 128

theorem numMsb_lt (c : Nat) (past : List Op) (hp : ∀ op ∈ past, op.Valid) : optLt (numMsb past c) :=
  (pnAbs_of_bounded c past hp).1
theorem numLsb_lt (c : Nat) (past : List Op) (hp : ∀ op ∈ past, op.Valid) : optLt (numLsb past c) :=
  (pnAbs_of_bounded c past hp).2.1
theorem v38_lt (c : Nat) (past : List Op) (hp : ∀ op ∈ past, op.Valid) : optLt (v38Of past c) :=
  (pnAbs_of_bounded c past hp).2.2

theorem relabelMsg_pnReport (f : Nat → Nat) (c hi lo : Nat) (reg : Bool) (l38 : Option Nat) (n v : Nat)
    (hlo : lo < 128) (hl : ∀ l, l38 = some l → l < 128) :
    relabelMsg f (pnReport c (128 * hi + lo) reg l38 n v) = pnReport c (128 * f hi + f lo) reg (l38.map f) n (f v) := by
  have n1 : (128 * hi + lo) / 128 = hi := by omega
  have n2 : (128 * hi + lo) % 128 = lo := by omega
  unfold pnReport
  split
  · simp [relabelMsg, n1, n2]
  · split
    · simp [relabelMsg, n1, n2]
    · cases l38 with
      | none => simp [relabelMsg, n1, n2]
      | some l =>
        have := hl l rfl
        have v1 : (128 * v + l) / 128 = v := by omega
        have v2 : (128 * v + l) % 128 = l := by omega
        simp [relabelMsg, n1, n2, v1, v2]

/-- `a'` has to be the relabelled `a` only where it is looked at: when the message is a Control Change -/
theorem justPN_relabel (f : Nat → Nat) (a a' : PNAbs) (hb : a.Bounded) (b : Bytes)
    (ha' : 176 ≤ b.status ∧ b.status < 192 → a' = a.relabel f) :
    justPN a' (relabelB f b) = (justPN a b).map (relabelMsg f) := by
  by_cases h : 176 ≤ b.status ∧ b.status < 192
  · rw [ha' h, relabelB_cc f b h, justPN_eq, justPN_eq]
    split
    · obtain ⟨hi, lo, reg, l38⟩ := a
      cases hi with
      | none => rfl
      | some hi =>
        cases lo with
        | none => rfl
        | some lo =>
          exact congrArg some (relabelMsg_pnReport f _ hi lo reg l38 _ _ (hb.2.1 lo rfl) hb.2.2).symm
    · rfl
  · rw [relabelB, if_neg h, justPN_not_cc _ b h, justPN_not_cc _ b h]; rfl

end Midi
