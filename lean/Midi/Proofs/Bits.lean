/- Bit operations on `Nat` rewritten to `/`, `%`, `*`, `+` (then `omega` decides). -/
import Midi.Model.Bits
namespace Midi

theorem and_7f (v : Nat) : v &&& 0x7f = v % 128 := Nat.and_two_pow_sub_one_eq_mod v 7
theorem and_0f (v : Nat) : v &&& 0x0f = v % 16 := Nat.and_two_pow_sub_one_eq_mod v 4
theorem and_1 (v : Nat) : v &&& 1 = v % 2 := Nat.and_two_pow_sub_one_eq_mod v 1
theorem shr_7 (v : Nat) : v >>> 7 = v / 128 := Nat.shiftRight_eq_div_pow v 7
theorem shr_4 (v : Nat) : v >>> 4 = v / 16 := Nat.shiftRight_eq_div_pow v 4
theorem shr_1 (v : Nat) : v >>> 1 = v / 2 := Nat.shiftRight_eq_div_pow v 1
theorem shl_7 (v : Nat) : v <<< 7 = v * 128 := Nat.shiftLeft_eq v 7
theorem shl_4 (v : Nat) : v <<< 4 = v * 16 := Nat.shiftLeft_eq v 4
theorem shl_1 (v : Nat) : v <<< 1 = v * 2 := Nat.shiftLeft_eq v 1

theorem or_eq_add (i a b : Nat) (ha : a % 2 ^ i = 0) (hb : b < 2 ^ i) : a ||| b = a + b := by
  have h : a = 2 ^ i * (a / 2 ^ i) := by rw [Nat.mul_div_cancel' (Nat.dvd_of_mod_eq_zero ha)]
  rw [h]; exact (Nat.two_pow_add_eq_or_of_lt hb _).symm

theorem or_eq_add_16 (a b : Nat) (ha : a % 16 = 0) (hb : b < 16) : a ||| b = a + b := or_eq_add 4 a b ha hb
theorem or_eq_add_128 (a b : Nat) (ha : a % 128 = 0) (hb : b < 128) : a ||| b = a + b := or_eq_add 7 a b ha hb
theorem or_eq_add_2 (a b : Nat) (ha : a % 2 = 0) (hb : b < 2) : a ||| b = a + b := or_eq_add 1 a b ha hb

@[simp] theorem extractHigh7_eq (v : Nat) : extractHigh7 v = v / 128 % 128 := by
  unfold extractHigh7; rw [shr_7, and_7f]; omega
@[simp] theorem extractLow7_eq (v : Nat) : extractLow7 v = v % 128 := by
  unfold extractLow7; rw [and_7f]; omega
theorem build14_eq (hi lo : Nat) (hh : hi < 128) (hl : lo < 128) : build14 hi lo = hi * 128 + lo := by
  unfold build14; rw [shl_7]
  have : hi * 128 % 65536 = hi * 128 := by omega
  rw [this, or_eq_add_128 _ _ (by omega) hl]
-- `Spec/MidiTable` writes `d2 * 128 + d1` (`build14_eq`); `Spec/History`, `Grammar` and `Monitor` write `128 * hi + lo`
theorem build14_eq' (hi lo : Nat) (hh : hi < 128) (hl : lo < 128) : build14 hi lo = 128 * hi + lo := by
  rw [build14_eq hi lo hh hl, Nat.mul_comm]
@[simp] theorem extractChannel_eq (b : Nat) : extractChannel b = b % 16 := and_0f b
@[simp] theorem lowNibble_eq (b : Nat) : lowNibble b = b % 16 := and_0f b
@[simp] theorem highNibble_eq (b : Nat) : highNibble b = b / 16 % 16 := by
  unfold highNibble; rw [shr_4, and_0f]
theorem buildStatusByte_eq (t c : Nat) (ht : t % 16 = 0) (hc : c < 16) : buildStatusByte t c = t + c :=
  or_eq_add_16 t c ht hc
theorem buildByteFromNibbles_eq (hi : Nat) (h : hi < 16) : buildByteFromNibbles hi 0 = .ok (hi * 16) := by
  unfold buildByteFromNibbles
  rw [if_pos (by omega), shl_4]
  have : hi * 16 % 256 = hi * 16 := by omega
  rw [this, or_eq_add_16 _ _ (by omega) (by omega)]; rfl

end Midi
