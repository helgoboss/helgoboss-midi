/-
The two trait impls of StructuredShortMessage (structured_short_message.rs) as TRANSLATED (Midi.Gen.StructuredImpl,
regenerated on every run): decoding from bytes and the three byte getters are the functions of the hand-written model.
-/
import Midi.Gen.StructuredImpl
import Midi.Gen.RawImpl
import Midi.Proofs.GenTie
namespace Midi.GenTie
open Midi Midi.Gen

namespace ST
open Midi.Gen.StructuredImpl

theorem from_bytes_unchecked (b : Bytes) : StructuredShortMessage.from_bytes_unchecked b = SMsg.ofBytesUnchecked b := by
  unfold StructuredShortMessage.from_bytes_unchecked SMsg.ofBytesUnchecked
  refine bind_congr fun o => ?_
  rcases o with _ | t
  · rfl
  · cases t <;> rfl

theorem status_byte (m : SMsg) : StructuredShortMessage.status_byte m = .ok m.statusByte := by
  cases m <;> rfl

theorem data_byte_1 (m : SMsg) : StructuredShortMessage.data_byte_1 m = .ok m.dataByte1 := by
  cases m <;> rfl

theorem data_byte_2 (m : SMsg) : StructuredShortMessage.data_byte_2 m = .ok m.dataByte2 := by
  cases m <;> rfl

theorem to_structured (m : SMsg) : StructuredShortMessage.to_structured m = .ok m := rfl

end ST

namespace RAW
open Midi.Gen.RawImpl
theorem from_bytes_unchecked (b : Bytes) : RawShortMessage.from_bytes_unchecked b = rawFactory.ofBytesUnchecked b := rfl
theorem getters (b : Bytes) :
    RawShortMessage.status_byte b = .ok (rawImpl.status b) ∧ RawShortMessage.data_byte_1 b = .ok (rawImpl.d1 b) ∧
    RawShortMessage.data_byte_2 b = .ok (rawImpl.d2 b) := ⟨rfl, rfl, rfl⟩
end RAW
end Midi.GenTie
