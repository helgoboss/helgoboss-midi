/- Lemmas about the models of `from_str` and `Display` for unsigned integers. -/
import Midi.Proofs.Conv
namespace Midi
open Midi.Spec

theorem digitsValue_ge (cs : List Char) (acc : Nat) : acc ≤ digitsValue cs acc := by
  induction cs generalizing acc with
  | nil => exact Nat.le_refl _
  | cons c cs ih => exact Nat.le_trans (by omega) (ih (acc * 10 + (c.toNat - 48)))

/-- The accumulator never exceeds `maxv`: the loop checks it after every digit, and it starts at 0. -/
theorem parseDigits_spec (maxv : Nat) (cs : List Char) (acc v : Nat) (hacc : acc ≤ maxv) :
    parseDigits maxv cs acc = some v ↔ (∀ c ∈ cs, c.isDigit = true) ∧ digitsValue cs acc = v ∧ v ≤ maxv := by
  induction cs generalizing acc with
  | nil =>
    simp only [parseDigits, digitsValue, Option.some.injEq, List.not_mem_nil, false_imp_iff, implies_true,
      true_and]
    exact ⟨fun h => ⟨h, h ▸ hacc⟩, And.left⟩
  | cons c cs ih =>
    simp only [parseDigits, digitsValue, List.forall_mem_cons]
    by_cases hd : c.isDigit = true
    · simp only [hd, if_true, true_and]
      by_cases ho : acc * 10 + (c.toNat - 48) > maxv
      · -- overflow: the remaining digits can only add to the value
        have := digitsValue_ge cs (acc * 10 + (c.toNat - 48))
        rw [if_pos ho]
        constructor
        · nofun
        · rintro ⟨_, rfl, h⟩; omega
      · rw [if_neg ho]; exact ih _ (by omega)
    · simp [hd]

theorem isNumeral_plus (r : List Char) : IsNumeral ('+' :: r) ↔ r ≠ [] ∧ ∀ c ∈ r, c.isDigit = true := Iff.rfl
theorem numeralValue_plus (r : List Char) : numeralValue ('+' :: r) = digitsValue r 0 := rfl

theorem numeral_cons {c : Char} (h : c ≠ '+') (cs : List Char) :
    (IsNumeral (c :: cs) ↔ ∀ x ∈ c :: cs, x.isDigit = true) ∧ numeralValue (c :: cs) = digitsValue (c :: cs) 0 := by
  unfold IsNumeral numeralValue
  constructor <;> split
  · next heq => cases heq; exact absurd rfl h
  · simp
  · next heq => cases heq; exact absurd rfl h
  · rfl

theorem parsePrim_plus (maxv : Nat) {r : List Char} (h : r ≠ []) :
    parsePrim maxv ('+' :: r) = parseDigits maxv r 0 := by
  cases r with
  | nil => exact absurd rfl h
  | cons d ds => rfl

/-- a lone `-` is rejected by the match, and by the digit loop as well -/
theorem parsePrim_cons (maxv : Nat) {c : Char} (h : c ≠ '+') (cs : List Char) :
    parsePrim maxv (c :: cs) = parseDigits maxv (c :: cs) 0 := by
  unfold parsePrim
  split
  · next heq => cases heq
  · next heq => cases heq; exact absurd rfl h
  · next heq => cases heq; rfl
  · next heq => cases heq; exact absurd rfl h
  · rfl

theorem parsePrim_spec (maxv : Nat) (s : List Char) (v : Nat) :
    parsePrim maxv s = some v ↔ IsNumeral s ∧ numeralValue s = v ∧ v ≤ maxv := by
  cases s with
  | nil => simp [parsePrim, IsNumeral]
  | cons c cs =>
    by_cases hc : c = '+'
    · subst hc
      rw [isNumeral_plus, numeralValue_plus]
      by_cases hr : cs = []
      · subst hr; simp [parsePrim]
      · rw [parsePrim_plus maxv hr, parseDigits_spec _ _ _ _ (Nat.zero_le _)]
        simp only [ne_eq, hr, not_false_eq_true, true_and]
    · rw [parsePrim_cons maxv hc, parseDigits_spec _ _ _ _ (Nat.zero_le _), (numeral_cons hc cs).1,
        (numeral_cons hc cs).2]

theorem parseNewtype_eq_filter (pw : Nat) (T : NewtypeDef) (s : List Char) :
    parseNewtype pw T s = (parsePrim (T.repr.maxVal pw).toNat s).filter (fun p : Nat => T.isValid p) := by
  unfold parseNewtype; cases parsePrim (T.repr.maxVal pw).toNat s <;> rfl

/-- When the representation type holds every valid payload, its parser never rejects a numeral in range. -/
theorem parseNewtype_iff {pw : Nat} {T : NewtypeDef} (hfit : (T.max : Int) ≤ T.repr.maxVal pw)
    (s : List Char) (v : Nat) :
    parseNewtype pw T s = some v ↔ IsNumeral s ∧ numeralValue s = v ∧ v ≤ T.max := by
  rw [parseNewtype_eq_filter, Option.filter_eq_some_iff, parsePrim_spec, T.isValid_iff]
  constructor
  · rintro ⟨⟨h1, h2, _⟩, _, h3⟩; exact ⟨h1, h2, by omega⟩
  · rintro ⟨h1, h2, h3⟩; exact ⟨⟨h1, h2, by omega⟩, by omega, by omega⟩

theorem digitsValue_append (xs : List Char) (c : Char) (acc : Nat) :
    digitsValue (xs ++ [c]) acc = digitsValue xs acc * 10 + (c.toNat - 48) := by
  induction xs generalizing acc with
  | nil => simp [digitsValue]
  | cons x xs ih => simp [digitsValue, ih]

theorem displayNat_lt {n : Nat} (h : n < 10) : displayNat n = [Char.ofNat (48 + n)] := by
  rw [displayNat, dif_pos h]
theorem displayNat_ge {n : Nat} (h : ¬ n < 10) :
    displayNat n = displayNat (n / 10) ++ [Char.ofNat (48 + n % 10)] := by
  rw [displayNat, dif_neg h]

theorem digitChar : ∀ d, d < 10 → (Char.ofNat (48 + d)).isDigit = true ∧ (Char.ofNat (48 + d)).toNat - 48 = d ∧
    (d ≠ 0 → Char.ofNat (48 + d) ≠ '0') := by decide

theorem displayNat_spec (n : Nat) :
    (∀ c ∈ displayNat n, c.isDigit = true) ∧ digitsValue (displayNat n) 0 = n ∧ displayNat n ≠ [] := by
  induction n using Nat.strongRecOn with
  | _ n ih =>
    by_cases h : n < 10
    · obtain ⟨h1, h2, -⟩ := digitChar n h
      rw [displayNat_lt h]
      simp [digitsValue, h1, h2]
    · obtain ⟨i1, i2, -⟩ := ih (n / 10) (by omega)
      obtain ⟨h1, h2, -⟩ := digitChar (n % 10) (by omega)
      rw [displayNat_ge h, digitsValue_append, i2, h2]
      refine ⟨?_, by omega, by simp⟩
      simp only [List.mem_append, List.mem_singleton]
      rintro c (hc | rfl)
      · exact i1 c hc
      · exact h1

/-- no leading zero (for n ≠ 0) and no sign: the first character is a non-zero digit -/
theorem displayNat_head (n : Nat) : ∃ c cs, displayNat n = c :: cs ∧ c.isDigit = true ∧ (n ≠ 0 → c ≠ '0') ∧ (cs ≠ [] → c ≠ '0') := by
  induction n using Nat.strongRecOn with
  | _ n ih =>
    by_cases h : n < 10
    · obtain ⟨h1, -, h3⟩ := digitChar n h
      exact ⟨_, [], displayNat_lt h, h1, h3, by simp⟩
    · obtain ⟨c, cs, h1, h2, h3, -⟩ := ih (n / 10) (by omega)
      exact ⟨c, cs ++ _, by rw [displayNat_ge h, h1]; rfl, h2, fun _ => h3 (by omega), fun _ => h3 (by omega)⟩

/-! ### what `pad_integral` puts around the digits -/

/-- the characters a format spec may put around the digits -/
def Pad (f : FmtSpec) (l : List Char) : Prop := ∀ c ∈ l, c = f.fill ∨ c = '0' ∨ c = '+'

theorem Pad.nil {f : FmtSpec} : Pad f [] := nofun
theorem Pad.append {f : FmtSpec} {a b : List Char} (ha : Pad f a) (hb : Pad f b) : Pad f (a ++ b) :=
  fun c hc => (List.mem_append.mp hc).elim (ha c) (hb c)
theorem Pad.fill (f : FmtSpec) (k : Nat) : Pad f (List.replicate k f.fill) :=
  fun _ hc => .inl (List.eq_of_mem_replicate hc)
theorem Pad.zero (f : FmtSpec) (k : Nat) : Pad f (List.replicate k '0') :=
  fun _ hc => .inr (.inl (List.eq_of_mem_replicate hc))
theorem Pad.sign (f : FmtSpec) : Pad f (if f.plus then ['+'] else []) := by
  split
  · exact fun _ hc => .inr (.inr (List.mem_singleton.mp hc))
  · exact .nil

end Midi
