/-
The trace monitor of `Midi/Spec/Monitor.lean` (C14), read as equations: what `Mon.step` does on a contributing Control
Change and on a poll, by what the call returned.  The model's state does not occur here; `Props/C14.lean` picks the
equation for each phase of the channel.
-/
import Midi.Spec.Monitor
namespace Midi.Spec
open Midi

/-! ### a contributing Control Change

For any contributing controller: nothing returned (`step_quiet`), the pending MSB flushed as a 7-bit value
(`step_flush`); both read off for a number byte with the controller number as the model's `onCC_cases` gives it.  Then
the results only some controllers produce: a 14-bit value (38, 6), an increment / decrement message (96, 97). -/

section
variable {ch timeout : Nat} {m : Mon} {cv now : Nat}
attribute [local simp] Mon.step outMsgs shapeOk attributionOk reportsByte PNMsg.sevenBit
  PNMsg.fourteenBit

/-- the byte a contributing Control Change makes the monitor record, once the marks `m1` are set -/
def Mon.record (cv cn : Nat) (m1 : Mon) : Mon :=
  if cn = 38 then { m1 with cc38 := some cv }
  else if cn = 99 ∨ cn = 101 then { m1 with hi := some cv, reg := cn == 101 }
  else if cn = 98 ∨ cn = 100 then { m1 with lo := some cv, reg := cn == 100 }
  else m1

@[simp] theorem Mon.record_lsb (m1 : Mon) : Mon.record cv 38 m1 = { m1 with cc38 := some cv } := rfl
@[simp] theorem Mon.record_msb (m1 : Mon) : Mon.record cv 6 m1 = m1 := rfl

theorem Mon.step_quiet {cn : Nat} (hc : isContributingCn cn = true) (ho : m.owed = none) :
    m.step ch timeout (.cc cn cv now) (none, none) = some (Mon.record cv cn
      (if cn = 6 then { m with cc6 := some (cv, false, false), owed := if m.numberOf.isSome then some now else none }
       else m)) := by
  obtain ⟨hi, lo, reg, cc6, cc38, owed⟩ := m
  subst ho
  simp [hc, Mon.record]

theorem Mon.step_flush {cn n f : Nat} {r : Bool} (hc : isContributingCn cn = true)
    (hn : m.numberOf = some n) (hr : m.reg = r) (h6 : m.cc6 = some (f, false, false)) :
    m.step ch timeout (.cc cn cv now) (some (.sevenBit ch n f r .dataEntry), none) = some (Mon.record cv cn
      (if cn = 6 then { m with cc6 := some (cv, false, false), owed := some now }
       else { m with cc6 := some (f, true, false), owed := none })) := by
  obtain ⟨hi, lo, reg, cc6, cc38, owed⟩ := m
  subst hr h6
  simp [hc, hn, Mon.record]
  cases owed <;> simp

theorem Mon.step_number {reg msb : Bool} (ho : m.owed = none) :
    m.step ch timeout (.cc ((if reg then 100 else 98) + (if msb then 1 else 0)) cv now) (none, none) =
      some (if msb then { m with hi := some cv, reg := reg } else { m with lo := some cv, reg := reg }) := by
  rw [Mon.step_quiet (by cases reg <;> cases msb <;> rfl) ho]
  cases reg <;> cases msb <;> rfl

theorem Mon.step_number_flush {reg msb : Bool} {n f : Nat} {r : Bool} (hn : m.numberOf = some n) (hr : m.reg = r)
    (h6 : m.cc6 = some (f, false, false)) :
    m.step ch timeout (.cc ((if reg then 100 else 98) + (if msb then 1 else 0)) cv now)
        (some (.sevenBit ch n f r .dataEntry), none) =
      some (if msb then { m with hi := some cv, reg := reg, cc6 := some (f, true, false), owed := none }
        else { m with lo := some cv, reg := reg, cc6 := some (f, true, false), owed := none }) := by
  rw [Mon.step_flush (by cases reg <;> cases msb <;> rfl) hn hr h6]
  cases reg <;> cases msb <;> rfl

theorem Mon.step_incDec_quiet {inc : Bool} (ho : m.owed = none) :
    m.step ch timeout (.cc (if inc then 96 else 97) cv now) (none, none) = some m := by
  rw [Mon.step_quiet (by cases inc <;> rfl) ho]
  cases inc <;> rfl

/-- controller 38 completes or renews a 14-bit value whose MSB is the latest controller-6 byte -/
theorem Mon.step_lsb_14 {n a : Nat} {r x y : Bool} (hcv : cv < 128) (hn : m.numberOf = some n) (hr : m.reg = r)
    (h6 : m.cc6 = some (a, x, y)) :
    m.step ch timeout (.cc 38 cv now) (some (.fourteenBit ch n (128 * a + cv) r), none) =
      some { m with cc6 := some (a, x, true), cc38 := some cv, owed := none } := by
  have : (128 * a + cv) / 128 = a := by omega
  obtain ⟨hi, lo, reg, cc6, cc38, owed⟩ := m
  subst hr h6
  simp [isContributingCn, hn, this]
  cases owed <;> simp

/-- controller 6 completes a 14-bit value whose LSB is the latest controller-38 byte -/
theorem Mon.step_msb_14 {n b : Nat} {r : Bool} (hn : m.numberOf = some n) (hr : m.reg = r) (ho : m.owed = none)
    (h38 : m.cc38 = some b) :
    m.step ch timeout (.cc 6 cv now) (some (.fourteenBit ch n (128 * cv + b) r), none) =
      some { m with cc6 := some (cv, false, true) } := by
  obtain ⟨hi, lo, reg, cc6, cc38, owed⟩ := m
  subst hr ho h38
  simp [isContributingCn, hn]

theorem Mon.step_incDec {inc : Bool} {n : Nat} {r : Bool} (hn : m.numberOf = some n) (hr : m.reg = r)
    (ho : m.owed = none) :
    m.step ch timeout (.cc (if inc then 96 else 97) cv now)
      (some (.sevenBit ch n cv r (if inc then .dataIncrement else .dataDecrement)), none) = some m := by
  obtain ⟨hi, lo, reg, cc6, cc38, owed⟩ := m
  subst hr ho
  have e1 : (DataType.dataIncrement == .dataEntry) = false := rfl
  have e2 : (DataType.dataDecrement == .dataEntry) = false := rfl
  cases inc <;> simp [isContributingCn, hn, e1, e2]

theorem Mon.step_incDec_flush {inc : Bool} {n f : Nat} {r : Bool} (hn : m.numberOf = some n) (hr : m.reg = r)
    (h6 : m.cc6 = some (f, false, false)) :
    m.step ch timeout (.cc (if inc then 96 else 97) cv now)
      (some (.sevenBit ch n f r .dataEntry),
       some (.sevenBit ch n cv r (if inc then .dataIncrement else .dataDecrement))) =
      some { m with cc6 := some (f, true, false), owed := none } := by
  obtain ⟨hi, lo, reg, cc6, cc38, owed⟩ := m
  subst hr h6
  cases inc <;> simp [isContributingCn, hn] <;> cases owed <;> simp

/-- a poll that flushes the pending MSB -/
theorem Mon.step_poll_flush {n f : Nat} {r : Bool} (hn : m.numberOf = some n) (hr : m.reg = r)
    (h6 : m.cc6 = some (f, false, false)) :
    m.step ch timeout (.poll now) (some (.sevenBit ch n f r .dataEntry), none) =
      some { m with cc6 := some (f, true, false), owed := none } := by
  obtain ⟨hi, lo, reg, cc6, cc38, owed⟩ := m
  subst hr h6
  simp [hn]
end

/-- a poll that returns nothing while no owed byte is late: the monitor stays as it is -/
theorem Mon.step_poll_quiet (ch timeout : Nat) (m : Mon) (now : Nat) (h : ∀ arr, m.owed = some arr → now - arr < timeout) :
    m.step ch timeout (.poll now) (none, none) = some m := by
  obtain ⟨hi, lo, reg, cc6, cc38, _ | arr⟩ := m
  · simp [Mon.step, outMsgs, shapeOk]
  · have := h arr rfl
    simp [Mon.step, outMsgs, shapeOk]; omega

end Midi.Spec
