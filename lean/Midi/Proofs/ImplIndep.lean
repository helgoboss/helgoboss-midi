/- Scanners take `&impl ShortMessage`: what they do depends only on the three bytes of the message. -/
import Midi.Proofs.Route
namespace Midi

/-- what a scanner does with a message depends on `channel()` and `to_structured()` of the message alone -/
theorem scanners_feed_congr {α β} (I : Impl α) (x : α) (J : Impl β) (y : β)
    (hc : channel I x = channel J y) (hs : toStructured I x = toStructured J y) :
    (∀ s : CCScanner, s.feed I x = s.feed J y) ∧
    (∀ s : PNScanner, s.feed I x = s.feed J y) ∧
    (∀ (now : Nat) (s : PScanner), s.feed I now x = s.feed J now y) := by
  refine ⟨fun s => ?_, fun s => ?_, fun now s => ?_⟩
  · simp only [CCScanner.feed_eq, CCChan.feed_eq, hc, hs]
  · simp only [PNScanner.feed_eq, PNChan.feed_eq, hc, hs]
  · simp only [PScanner.feed_eq, PChan.feed_eq, hc, hs]

end Midi
