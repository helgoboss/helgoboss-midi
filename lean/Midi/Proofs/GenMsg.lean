/-
control_change_14_bit_message.rs and parameter_number_message.rs as TRANSLATED (Midi.Gen.CCMsg, Midi.Gen.PNMsgFile,
regenerated on every run): constructors, getters and `to_short_messages` compute exactly what the hand-written
model (Midi.Model.CC14, Midi.Model.PN) computes.
-/
import Midi.Gen.CCMsg
import Midi.Gen.PNMsgFile
import Midi.Proofs.GenTie
namespace Midi.GenTie
open Midi Midi.Spec Midi.Gen

namespace CCM
abbrev GMsg := CCMsg.ControlChange14BitMessage
def msg (m : GMsg) : CC14Msg := ⟨m.channel, m.msb_controller_number, m.value⟩
def gmsg (m : CC14Msg) : GMsg := ⟨m.channel, m.msb, m.value⟩
@[simp] theorem gmsg_msg (m : GMsg) : gmsg (msg m) = m := rfl
@[simp] theorem msg_gmsg (m : CC14Msg) : msg (gmsg m) = m := rfl

theorem new (channel msb value : Nat) :
    CCMsg.ControlChange14BitMessage.new channel msb value = (CC14Msg.new channel msb value).map gmsg :=
  (map_bind_congr fun o => by cases o <;> rfl).symm

theorem lsb (m : GMsg) : m.lsb_controller_number = (msg m).lsb :=
  bind_congr fun o => by cases o <;> rfl

theorem getters (m : GMsg) :
    m.channel_fn = .ok (msg m).channel ∧ m.msb_controller_number_fn = .ok (msg m).msb ∧ m.value_fn = .ok (msg m).value :=
  ⟨rfl, rfl, rfl⟩

theorem to_short_messages {α : Type} (F : Factory α) (m : GMsg) :
    (m.to_short_messages F).map (·.toList) = (msg m).toShortMessages F := by
  unfold CCMsg.ControlChange14BitMessage.to_short_messages CC14Msg.toShortMessages
  simp only [lsb, CCMsg.ControlChange14BitMessage.msb_controller_number_fn, ok_bind]
  -- the same three calls in the same order
  exact map_bind_congr fun a => map_bind_congr fun l => map_bind_congr fun b => rfl

/-- `From<ControlChange14BitMessage> for [T; 2]` is `to_short_messages` -/
theorem from_array {α : Type} (F : Factory α) (m : GMsg) :
    CCMsg.ControlChange14BitMessage.from_array F m = m.to_short_messages F := bind_ok _

end CCM

namespace PNM
abbrev GMsg := PNMsgFile.ParameterNumberMessage
def dt : PNMsgFile.DataType_ → DataType
  | .DataEntry => .dataEntry | .DataIncrement => .dataIncrement | .DataDecrement => .dataDecrement
def gdt : DataType → PNMsgFile.DataType_
  | .dataEntry => .DataEntry | .dataIncrement => .DataIncrement | .dataDecrement => .DataDecrement
@[simp] theorem gdt_dt (d) : gdt (dt d) = d := by cases d <;> rfl
@[simp] theorem dt_gdt (d) : dt (gdt d) = d := by cases d <;> rfl
def ord : PNMsgFile.DataEntryByteOrder → ByteOrder
  | .MsbFirst => .msbFirst | .LsbFirst => .lsbFirst
def msg (m : GMsg) : PNMsg := ⟨m.channel, m.number, m.value, m.is_registered, m.is_14_bit, dt m.data_type⟩
def gmsg (m : PNMsg) : GMsg := ⟨m.channel, m.number, m.value, m.isRegistered, m.is14Bit, gdt m.dataType⟩
@[simp] theorem gmsg_msg (m : GMsg) : gmsg (msg m) = m := by simp [gmsg, msg]
@[simp] theorem msg_gmsg (m : PNMsg) : msg (gmsg m) = m := by simp [gmsg, msg]

theorem seven_bit (c n v : Nat) (r : Bool) (d : PNMsgFile.DataType_) :
    PNMsgFile.ParameterNumberMessage.seven_bit c n v r d = .ok (gmsg (PNMsg.sevenBit c n v r (dt d))) := by
  simp [PNMsgFile.ParameterNumberMessage.seven_bit, gmsg, PNMsg.sevenBit]

theorem fourteen_bit (c n v : Nat) (r : Bool) :
    PNMsgFile.ParameterNumberMessage.fourteen_bit c n v r = .ok (gmsg (PNMsg.fourteenBit c n v r)) := rfl

/-- the eight public constructors, in declaration order, against the hand-written constructor table -/
theorem ctors (c n v : Nat) :
    PNMsgFile.ParameterNumberMessage.non_registered_7_bit c n v = .ok (gmsg (PNMsg.ctor 0 c n v)) ∧
    PNMsgFile.ParameterNumberMessage.non_registered_14_bit c n v = .ok (gmsg (PNMsg.ctor 1 c n v)) ∧
    PNMsgFile.ParameterNumberMessage.non_registered_decrement c n v = .ok (gmsg (PNMsg.ctor 2 c n v)) ∧
    PNMsgFile.ParameterNumberMessage.non_registered_increment c n v = .ok (gmsg (PNMsg.ctor 3 c n v)) ∧
    PNMsgFile.ParameterNumberMessage.registered_7_bit c n v = .ok (gmsg (PNMsg.ctor 4 c n v)) ∧
    PNMsgFile.ParameterNumberMessage.registered_14_bit c n v = .ok (gmsg (PNMsg.ctor 5 c n v)) ∧
    PNMsgFile.ParameterNumberMessage.registered_decrement c n v = .ok (gmsg (PNMsg.ctor 6 c n v)) ∧
    PNMsgFile.ParameterNumberMessage.registered_increment c n v = .ok (gmsg (PNMsg.ctor 7 c n v)) :=
  ⟨rfl, rfl, rfl, rfl, rfl, rfl, rfl, rfl⟩

theorem getters (m : GMsg) :
    m.channel_fn = .ok (msg m).channel ∧ m.number_fn = .ok (msg m).number ∧ m.value_fn = .ok (msg m).value ∧
    m.is_14_bit_fn = .ok (msg m).is14Bit ∧ m.is_registered_fn = .ok (msg m).isRegistered ∧
    (m.data_type_fn).map dt = .ok (msg m).dataType :=
  ⟨rfl, rfl, rfl, rfl, rfl, rfl⟩

theorem to_short_messages {α : Type} (F : Factory α) (m : GMsg) (o : PNMsgFile.DataEntryByteOrder) :
    (m.to_short_messages F o).map (·.toList) = (msg m).toShortMessages F (ord o) := by
  obtain ⟨c, n, v, r, b, d⟩ := m
  unfold PNMsgFile.ParameterNumberMessage.to_short_messages PNMsg.toShortMessages
  -- both sides make the same factory calls in the same order; follow them one by one
  refine map_bind_congr fun t1 => ?_
  refine map_bind_congr fun t2 => ?_
  cases d <;> cases o <;> cases b <;>
    simp only [PNMsgFile.ParameterNumberMessage.build_data_entry_msb_msg,
      PNMsgFile.ParameterNumberMessage.build_data_entry_lsb_msg, PNMsgFile.ParameterNumberMessage.build_data_inc_dec_msg,
      bind_ok, msg, dt, ord, Bool.false_eq_true, Nat.reduceAdd, Nat.reduceLT, ↓reduceIte, ↓reduceDIte,
      ok_bind, bind_assoc] <;>
    refine map_bind_congr fun t3 => ?_
  -- a 14-bit data entry has a fourth call
  all_goals first | rfl | exact map_bind_congr fun t4 => rfl

/-- `From<ParameterNumberMessage> for [Option<T>; 4]` is the MSB-first encoding -/
theorem from_array {α : Type} (F : Factory α) (m : GMsg) :
    PNMsgFile.ParameterNumberMessage.from_array F m = m.to_short_messages F .MsbFirst := bind_ok _

end PNM
end Midi.GenTie
