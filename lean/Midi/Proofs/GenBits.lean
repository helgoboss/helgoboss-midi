/-
bit_util.rs as TRANSLATED (Midi.Gen.BitUtil): each helper is, by `rfl`, the hand-written definition of Midi.Model.Bits.
(The nibble helpers of short_message.rs are tied in GenShort, so that this file depends on bit_util.rs alone.)
-/
import Midi.Gen.BitUtil
import Midi.Proofs.GenTie
import Midi.Proofs.Bits
namespace Midi.GenTie
open Midi Midi.Gen

namespace BU
theorem high7 (v : Nat) : BitUtil.extract_high_7_bit_value_from_14_bit_value v = .ok (extractHigh7 v) := rfl
theorem low7 (v : Nat) : BitUtil.extract_low_7_bit_value_from_14_bit_value v = .ok (extractLow7 v) := rfl
theorem build14 (h l : Nat) : BitUtil.build_14_bit_value_from_two_7_bit_values h l = .ok (Midi.build14 h l) := rfl
theorem status (t c : Nat) : BitUtil.build_status_byte t c = .ok (buildStatusByte t c) := rfl
theorem channel (b : Nat) : BitUtil.extract_channel_from_status_byte b = .ok (extractChannel b) := rfl
end BU
end Midi.GenTie
