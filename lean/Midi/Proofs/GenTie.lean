/-
Shared pieces of the translator tie: the modules under Midi/Gen that tools/rs2lean.py regenerates from the Rust
source on every run are proved to behave exactly like the hand-written model the property theorems are about.
First what the translator's `do` blocks need (`bind_ok`, `map_bind_congr`; two blocks that start with the same call
are compared by core's `bind_congr`), then what the three scanners share: a vector of sixteen sub-scanners related
to the model's element by element, so that routing a message (`groute_eq`), the reset loop (`reset_back`) and a run
over a history (`run_back`) are tied once.
-/
import Midi.Gen.Prelude
import Midi.Proofs.Route
namespace Midi.GenTie
open Midi Midi.Spec Midi.Gen

theorem forEachMut_ok {α : Type} {n : Nat} (v : Vector α n) (f : α → Res α) (g : α → α)
    (h : ∀ x, f x = .ok (g x)) : forEachMut v f = .ok (v.map g) := by
  rw [forEachMut, funext h]
  exact Vector.mapM_pure ..

/-- the translator's `do let t ← r; .ok t` is `r` -/
@[simp] theorem bind_ok {β : Type} (r : Res β) : (r >>= fun v => Except.ok v) = r := by cases r <;> rfl

theorem ok_bind {α β : Type} (a : α) (f : α → Res β) : (Except.ok a >>= f) = f a := rfl

/-- two programs that start with the same call and agree (up to `k` on the results) whatever it returns -/
theorem map_bind_congr {α β γ : Type} {r : Res α} {f : α → Res β} {g : α → Res γ} {k : β → γ}
    (h : ∀ a, (f a).map k = g a) : (r >>= f).map k = r >>= g := by
  cases r with
  | error e => rfl
  | ok a => exact h a

/-- a hand-model result `(state, output)` read in the translated shape `(output, state)` -/
def back {α σ τ : Type} (f : σ → τ) (r : Res (σ × α)) : Res (α × τ) :=
  match r with
  | .ok p => .ok (p.2, f p.1)
  | .error e => .error e

theorem back_eq_ok {α σ τ : Type} {f : σ → τ} {r : Res (σ × α)} {o : α} {t : τ} (h : back f r = .ok (o, t)) :
    ∃ s, r = .ok (s, o) ∧ f s = t := by
  rcases r with e | p
  · cases h
  · cases h; exact ⟨p.1, rfl, rfl⟩

/-- `back`, with the output converted as well -/
def backWith {α β σ τ : Type} (k : α → β) (f : σ → τ) (r : Res (σ × α)) : Res (β × τ) :=
  match r with
  | .ok p => .ok (k p.2, f p.1)
  | .error e => .error e

theorem back_eq_backWith {α σ τ : Type} (f : σ → τ) (r : Res (σ × α)) : back f r = backWith id f r := by
  cases r <;> rfl

/-! ### the three scanners: sixteen sub-scanners in a vector, related to the model's element by element -/

section
variable {σ τ γ ω ω' : Type} {chan : τ → σ} {gchan : σ → τ}

theorem map_map_inv {n : Nat} (hg : ∀ t, gchan (chan t) = t) (v : Vector τ n) : (v.map chan).map gchan = v := by
  simp [Vector.map_map, Function.comp_def, hg]

theorem map_set_map {n : Nat} (hg : ∀ t, gchan (chan t) = t) (v : Vector τ n) (i : Nat) (h : i < n) (a : σ) :
    ((v.map chan).set i a h).map gchan = v.set i (gchan a) h := by
  rw [Vector.map_set, map_map_inv hg]

/-- `routeFeed` in the translated shape: result first, then the new scanner, which is the vector wrapped by `mk` -/
def groute (mk : Vector τ 16 → γ) (dflt : ω') (ch? : Res (Option Nat)) (g : τ → Res (ω' × τ)) (v : Vector τ 16) :
    Res (ω' × γ) := do
  match ← ch? with
  | none => .ok (dflt, mk v)
  | some ch =>
    if h : ch < 16 then do
      let (out, t') ← g v[ch]
      .ok (out, mk (v.set ch t'))
    else .error .indexOutOfBounds

/-- if the translated sub-scanner does what the model's does (`hfg`), routing to it does what the model's routing does -/
theorem groute_eq (hg : ∀ t, gchan (chan t) = t) (mk : Vector τ 16 → γ) (k : ω → ω') (dflt : ω)
    (ch? : Res (Option Nat)) {f : σ → Res (σ × ω)} {g : τ → Res (ω' × τ)}
    (hfg : ∀ t, g t = backWith k gchan (f (chan t))) (v : Vector τ 16) :
    groute mk (k dflt) ch? g v = backWith k (fun s => mk (s.map gchan)) (routeFeed dflt ch? f (v.map chan)) := by
  unfold routeFeed groute
  rcases ch? with e | _ | ch
  · rfl
  · simp only [bind, Except.bind, backWith, map_map_inv hg]
  · by_cases h : ch < 16
    · simp only [bind, Except.bind, h, dite_true, Vector.getElem_map, hfg]
      cases f (chan v[ch]) with
      | error e => rfl
      | ok p => simp only [backWith, map_set_map hg]
    · simp only [bind, Except.bind, h, dite_false]; rfl

theorem groute_back (hg : ∀ t, gchan (chan t) = t) (mk : Vector τ 16 → γ) (dflt : ω) (ch? : Res (Option Nat))
    {f : σ → Res (σ × ω)} {g : τ → Res (ω × τ)} (hfg : ∀ t, g t = back gchan (f (chan t))) (v : Vector τ 16) :
    groute mk dflt ch? g v = back (fun s => mk (s.map gchan)) (routeFeed dflt ch? f (v.map chan)) :=
  back_eq_backWith .. ▸ groute_eq hg mk id dflt ch? (fun t => back_eq_backWith .. ▸ hfg t) v

/-- the translated `reset`: a loop over the sub-scanners whose body `f` does what the model's `r` does -/
theorem reset_back (mk : Vector τ 16 → γ) (v : Vector τ 16) {f : τ → Res τ} {r : σ → σ}
    (h : ∀ t, f t = .ok (gchan (r (chan t)))) :
    (forEachMut v f >>= fun w => Except.ok ((), mk w)) = .ok ((), mk (((v.map chan).map r).map gchan)) := by
  rw [forEachMut_ok v f _ h, Vector.map_map, Vector.map_map]; rfl
end

/-- A function that satisfies the two equations of a run over the translated step function is the model's run, read
    through the bijection `f`, `g` of the states. -/
theorem run_back {σ τ ι ω : Type} {f : τ → σ} {g : σ → τ} (hgf : ∀ s, g (f s) = s) (hfg : ∀ s, f (g s) = s)
    {step : σ → ι → Res (σ × ω)} {gstep : τ → ι → Res (ω × τ)} (hstep : ∀ s op, gstep s op = back g (step (f s) op))
    {grun : τ → List ι → Res (List ω × τ)} (hnil : ∀ s, grun s [] = .ok ([], s))
    (hcons : ∀ s op ops, grun s (op :: ops) =
      do let (o, s') ← gstep s op; let (os, s'') ← grun s' ops; .ok (o :: os, s''))
    (s : τ) (ops : List ι) : grun s ops = back g (runM step (f s) ops) := by
  induction ops generalizing s with
  | nil => rw [hnil, runM, back, hgf]
  | cons op ops ih =>
    rw [hcons, hstep, runM]
    cases step (f s) op with
    | error e => rfl
    | ok p =>
      simp only [back, bind, Except.bind, ih, hfg]
      cases runM step p.1 ops <;> rfl

end Midi.GenTie
