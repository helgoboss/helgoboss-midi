/-
Relabelling whole polling-scanner histories (TOp): validity, and commutation with the per-channel projection.
Helper lemmas for Props/TPoll `data_independent`.
-/
import Midi.Proofs.PollRelabel
import Midi.Proofs.CC14
namespace Midi
open Midi.Spec

def relabelTOp (f : Nat → Nat) : TOp → TOp
  | .feed b => .feed (relabelB f b)
  | o => o

theorem relabelTOp_valid (f : Nat → Nat) (hf : ∀ v, v < 128 → f v < 128) (ops : List TOp) (hv : ∀ op ∈ ops, op.Valid) :
    ∀ op ∈ ops.map (relabelTOp f), op.Valid := by
  intro op ho
  obtain ⟨o, hin, rfl⟩ := List.mem_map.1 ho
  cases o with
  | feed b => exact relabelB_valid f hf b (hv _ hin)
  | _ => exact hv _ hin

theorem projectOp_relabel (f : Nat → Nat) (c : Nat) (hc : c < 16) (now : Nat) (op : TOp) :
    projectOp c now (relabelTOp f op) = (projectOp c now op).map (relabelEv f) ∧ nextNow now (relabelTOp f op) = nextNow now op := by
  cases op with
  | feed b =>
    simp only [relabelTOp, projectOp, relabelB, nextNow, and_true]
    by_cases h : 176 ≤ b.status ∧ b.status < 192
    · have h3 : 176 + c < 192 := by omega
      by_cases h2 : b.status = 176 + c <;> simp [h, h2, h3, relabelEv]
    · have : b.status ≠ 176 + c := by omega
      simp [h, this]
  | poll ch => simp only [relabelTOp, projectOp, nextNow, and_true]; split <;> simp [relabelEv]
  | reset => simp [relabelTOp, projectOp, nextNow, relabelEv]
  | tick d => simp [relabelTOp, projectOp, nextNow]

theorem project_relabel (f : Nat → Nat) (c : Nat) (hc : c < 16) (now : Nat) (ops : List TOp) :
    project c now (ops.map (relabelTOp f)) = (project c now ops).map (relabelEv f) := by
  induction ops generalizing now with
  | nil => rfl
  | cons op ops ih =>
    obtain ⟨h1, h2⟩ := projectOp_relabel f c hc now op
    simp only [List.map_cons, project, h1, h2]
    cases projectOp c now op <;> simp [ih]

end Midi
