/-
The (N)RPN scanner as TRANSLATED from parameter_number_message_scanner.rs (Midi.Gen.PNScan, regenerated on every
run) computes exactly what the hand-written model (Midi.Model.PN) computes.
-/
import Midi.Gen.PNScan
import Midi.Proofs.GenTie
import Midi.Proofs.PN
namespace Midi.GenTie
open Midi Midi.Spec Midi.Gen

namespace PN
abbrev GChan := PNScan.ScannerForOneChannel
abbrev GScanner := PNScan.ParameterNumberMessageScanner

def chan (s : GChan) : PNChan := ⟨s.number_msb, s.number_lsb, s.is_registered, s.value_lsb⟩
def gchan (s : PNChan) : GChan := ⟨s.numberMsb, s.numberLsb, s.isRegistered, s.valueLsb⟩
@[simp] theorem gchan_chan (s : GChan) : gchan (chan s) = s := rfl
@[simp] theorem chan_gchan (s : PNChan) : chan (gchan s) = s := rfl
def scanner (s : GScanner) : PNScanner := s.scanner_by_channel.map chan
def gscanner (s : PNScanner) : GScanner := ⟨s.map gchan⟩
@[simp] theorem gscanner_scanner (s : GScanner) : gscanner (scanner s) = s :=
  congrArg (⟨·⟩ : _ → GScanner) (map_map_inv gchan_chan s.scanner_by_channel)
@[simp] theorem scanner_gscanner (s : PNScanner) : scanner (gscanner s) = s := map_map_inv chan_gchan s

theorem build_number (s : GChan) : s.build_number = .ok (chan s).buildNumber := by
  obtain ⟨hi, lo, reg, l⟩ := s
  cases hi <;> cases lo <;> rfl

theorem chan_feed {α : Type} (I : Impl α) (s : GChan) (x : α) :
    s.feed I x = back gchan (PNChan.feed I (chan s) x) := by
  unfold PNScan.ScannerForOneChannel.feed PNChan.feed
  rcases toStructured I x with e | m <;> try rfl
  cases m <;> try rfl
  rename_i channel cn cv
  obtain ⟨hi, lo, reg, l⟩ := s
  simp only [bind, Except.bind, PNScan.ScannerForOneChannel.process_number_lsb, PNScan.ScannerForOneChannel.process_number_msb,
    PNScan.ScannerForOneChannel.process_value_lsb, PNScan.ScannerForOneChannel.process_value_msb,
    PNScan.ScannerForOneChannel.process_value_inc_dec, PNScan.ScannerForOneChannel.reset_value, build_number, chan]
  rcases cn_cases cn with h | hc
  · rcases h with rfl | rfl | rfl | rfl | rfl | rfl | rfl | rfl
    iterate 5 rfl
    -- 6, 96 and 97 report when the number is complete; 6 looks at the stored value LSB as well
    · simp only [PNChan.onCC]
      cases PNChan.buildNumber ⟨hi, lo, reg, l⟩ <;> cases l <;> rfl
    all_goals
      simp only [PNChan.onCC]
      cases PNChan.buildNumber ⟨hi, lo, reg, l⟩ <;> rfl
  · have hne : cn ≠ 98 ∧ cn ≠ 99 ∧ cn ≠ 100 ∧ cn ≠ 101 ∧ cn ≠ 38 ∧ cn ≠ 6 ∧ cn ≠ 96 ∧ cn ≠ 97 := by omega
    rw [pn_onCC_other _ _ _ _ hc]
    simp [hne, back, gchan]

theorem feed {α : Type} (I : Impl α) (s : GScanner) (x : α) :
    s.feed I x = back gscanner (PNScanner.feed I (scanner s) x) := by
  rw [PNScanner.feed_eq]
  refine .trans ?_ (groute_back gchan_chan (⟨·⟩ : _ → GScanner) none _ (fun t => chan_feed I t x) _)
  unfold PNScan.ParameterNumberMessageScanner.feed groute
  rcases channel I x with _ | _ | _ <;> rfl

theorem reset (s : GScanner) : s.reset = .ok ((), gscanner (scanner s).reset) :=
  reset_back (⟨·⟩ : _ → GScanner) s.scanner_by_channel fun _ => rfl

theorem default_eq : (default : GScanner) = gscanner PNScanner.new := by
  rw [gscanner, PNScanner.new, Vector.map_replicate]; rfl

theorem new : PNScan.ParameterNumberMessageScanner.new = .ok (gscanner PNScanner.new) := congrArg Except.ok default_eq

def gstep (s : GScanner) : Op → Res (Option PNMsg × GScanner)
  | .feed b => s.feed rawImpl b
  | .reset => do let (_, s') ← s.reset; .ok (none, s')

def grun (s : GScanner) : List Op → Res (List (Option PNMsg) × GScanner)
  | [] => .ok ([], s)
  | op :: ops => do
    let (o, s') ← gstep s op
    let (os, s'') ← grun s' ops
    .ok (o :: os, s'')

theorem gstep_eq (s : GScanner) (op : Op) : gstep s op = back gscanner (pnStep (scanner s) op) := by
  cases op with
  | feed b => exact feed rawImpl s b
  | reset => simp [gstep, pnStep, reset, back, bind, Except.bind]

theorem grun_eq (s : GScanner) (ops : List Op) : grun s ops = back gscanner (pnRun (scanner s) ops) :=
  pnRun_eq _ _ ▸ run_back gscanner_scanner scanner_gscanner gstep_eq (fun _ => rfl) (fun _ _ _ => rfl) s ops

/-- a feed and a run of the hand-written model, read on the translated scanner -/
theorem feed_of_model {α : Type} {I : Impl α} {s s' : PNScanner} {x : α} {o} (h : s.feed I x = .ok (s', o)) :
    (gscanner s).feed I x = .ok (o, gscanner s') := by
  rw [feed, scanner_gscanner, h]; rfl

theorem grun_of_model {s s' : PNScanner} {ops : List Op} {os} (h : pnRun s ops = .ok (s', os)) :
    grun (gscanner s) ops = .ok (os, gscanner s') := by
  rw [grun_eq, scanner_gscanner, h]; rfl

theorem grun_default {s' : PNScanner} {ops : List Op} {os} (h : pnRun PNScanner.new ops = .ok (s', os)) :
    grun default ops = .ok (os, gscanner s') :=
  default_eq ▸ grun_of_model h

end PN
end Midi.GenTie
