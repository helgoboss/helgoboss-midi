/-
The default methods of the traits ShortMessage (short_message.rs) and ShortMessageFactory (short_message_factory.rs),
the inherent methods of the classification enums and the nibble helpers of short_message.rs, as TRANSLATED
(Midi.Gen.ShortMsg, Midi.Gen.FactoryDefaults, regenerated on every run), are the functions of the hand-written model
(Midi.Model.Short / Types / Bits), method by method.
-/
import Midi.Gen.ShortMsg
import Midi.Gen.FactoryDefaults
import Midi.Proofs.GenTie
namespace Midi.GenTie
open Midi Midi.Gen

-- the bit helpers that short_message.rs defines itself (those of bit_util.rs: GenBits)
namespace BU
theorem mtc (t d : Nat) : ShortMsg.build_mtc_quarter_frame_data_byte t d = .ok (buildMtc t d) := rfl
theorem low_nibble (v : Nat) : ShortMsg.extract_low_nibble_from_byte v = .ok (lowNibble v) := rfl
theorem high_nibble (v : Nat) : ShortMsg.extract_high_nibble_from_byte v = .ok (highNibble v) := rfl
theorem from_nibbles (h l : Nat) : ShortMsg.build_byte_from_nibbles h l = buildByteFromNibbles h l := by
  unfold ShortMsg.build_byte_from_nibbles buildByteFromNibbles
  by_cases h1 : h ≤ 15 <;> by_cases h2 : l ≤ 15 <;> simp [h1, h2]
end BU

namespace QF
open Midi.Gen.ShortMsg

theorem extract_type (s : Nat) : extract_type_from_status_byte s = extractType s := by
  unfold extract_type_from_status_byte extractType
  simp only [BU.high_nibble, BU.from_nibbles, ok_bind]
  simp  -- the test on the high nibble, as `==` or `!=`

theorem to_u7 (f : QFrame) : U7.from_ f = .ok f.toU7 := by
  cases f <;> rfl

theorem of_u7 (d : Nat) : TimeCodeQuarterFrame.from_ d = QFrame.ofU7 d := by
  unfold TimeCodeQuarterFrame.from_ QFrame.ofU7
  simp only [BU.high_nibble]
  generalize highNibble d = h
  -- 0-6: a plain frame; 7: the last one, which carries the time code type; above: the arm never reached (a nibble)
  rcases h with _ | _ | _ | _ | _ | _ | _ | _ | h
  iterate 7 rfl
  · cases TimeCodeType.ofU8 ((d &&& 6) >>> 1) <;> rfl
  · rfl

end QF

namespace SM
open Midi.Gen.ShortMsg
variable {α β : Type}

theorem to_bytes (I : Impl α) (x : α) : ShortMessage.to_bytes I x = .ok ⟨I.status x, I.d1 x, I.d2 x⟩ := rfl

theorem to_other (I : Impl α) (F : Factory β) (x : α) : ShortMessage.to_other I x F = toOther I F x := bind_ok _

/-- the DEFAULT `to_structured` (types that do not override it) -/
theorem to_structured (I : Impl α) (x : α) : ShortMessage.to_structured I x = SMsg.ofBytesUnchecked (I.toBytes x) := by
  unfold ShortMessage.to_structured
  simp only [to_other, bind_ok]
  rfl

theorem to_structured_default (I : Impl α) (h : I.toStructuredOverride = none) (x : α) :
    ShortMessage.to_structured I x = toStructured I x := by
  rw [to_structured]; unfold toStructured; rw [h]

theorem type_ (I : Impl α) (x : α) : ShortMessage.type_ I x = msgType I x := by
  unfold ShortMessage.type_ msgType
  rw [QF.extract_type]
  exact bind_congr fun o => by cases o <;> rfl

/-- two methods that start from `type()` and then agree for every message type -/
theorem bind_type {β : Type} (I : Impl α) (x : α) {f g : MsgType → Res β} (h : ∀ t, f t = g t) :
    (ShortMessage.type_ I x >>= f) = (msgType I x >>= g) := by
  rw [type_, funext h]

theorem super_type (I : Impl α) (x : α) : ShortMessage.super_type I x = superType I x := by
  refine bind_type I x fun t => ?_
  cases t <;> try rfl
  -- Control Change: the one type whose super type depends on the message
  cases cnIsChannelMode (I.d1 x) <;> rfl

theorem main_category (I : Impl α) (x : α) : ShortMessage.main_category I x = mainCategory I x := by
  unfold ShortMessage.main_category mainCategory
  rw [super_type]

theorem is_note_on (I : Impl α) (x : α) : ShortMessage.is_note_on I x = isNoteOn I x :=
  bind_congr fun s => by cases s <;> rfl

theorem is_note_off (I : Impl α) (x : α) : ShortMessage.is_note_off I x = isNoteOff I x :=
  bind_congr fun s => by cases s <;> rfl

theorem is_note (I : Impl α) (x : α) : ShortMessage.is_note I x = isNote I x :=
  bind_type I x fun t => by cases t <;> rfl

theorem channel (I : Impl α) (x : α) : ShortMessage.channel I x = Midi.channel I x := by
  unfold ShortMessage.channel Midi.channel
  rw [main_category]
  exact bind_congr fun c => by cases c <;> rfl

theorem key_number (I : Impl α) (x : α) : ShortMessage.key_number I x = keyNumber I x :=
  bind_type I x fun t => by cases t <;> rfl

theorem velocity (I : Impl α) (x : α) : ShortMessage.velocity I x = Midi.velocity I x :=
  bind_type I x fun t => by cases t <;> rfl

theorem controller_number (I : Impl α) (x : α) : ShortMessage.controller_number I x = controllerNumber I x :=
  bind_type I x fun t => by cases t <;> rfl

theorem control_value (I : Impl α) (x : α) : ShortMessage.control_value I x = controlValue I x :=
  bind_type I x fun t => by cases t <;> rfl

theorem program_number (I : Impl α) (x : α) : ShortMessage.program_number I x = programNumber I x :=
  bind_type I x fun t => by cases t <;> rfl

theorem pressure_amount (I : Impl α) (x : α) : ShortMessage.pressure_amount I x = pressureAmount I x :=
  bind_type I x fun t => by cases t <;> rfl

theorem pitch_bend_value (I : Impl α) (x : α) : ShortMessage.pitch_bend_value I x = pitchBendValue I x :=
  bind_type I x fun t => by cases t <;> rfl

end SM

namespace FD
open Midi.Gen.FactoryDefaults
variable {α β : Type}


theorem from_other (I : Impl α) (F : Factory β) (x : α) : ShortMessageFactory.from_other I F x = fromOther F I x :=
  bind_ok _

theorem channel_message (F : Factory β) (t : MsgType) (ch d1 d2 : Nat) :
    ShortMessageFactory.channel_message F t ch d1 d2 = channelMessage F t ch d1 d2 := by
  unfold ShortMessageFactory.channel_message channelMessage
  rw [bind_ok]
  cases t.superType <;> rfl

theorem system_common_message (F : Factory β) (t : MsgType) (d1 d2 : Nat) :
    ShortMessageFactory.system_common_message F t d1 d2 = systemCommonMessage F t d1 d2 := by
  unfold ShortMessageFactory.system_common_message systemCommonMessage
  rw [bind_ok]
  cases t.superType <;> rfl

theorem system_real_time_message (F : Factory β) (t : MsgType) :
    ShortMessageFactory.system_real_time_message F t = systemRealTimeMessage F t := by
  unfold ShortMessageFactory.system_real_time_message systemRealTimeMessage
  rw [bind_ok]
  cases t.superType <;> rfl

/-- the named constructors with arguments: each is the model's, its result passed on -/
theorem named (F : Factory β) (ch a b v : Nat) (f : QFrame) :
    ShortMessageFactory.note_on F ch a b = mkNoteOn F ch a b ∧
    ShortMessageFactory.note_off F ch a b = mkNoteOff F ch a b ∧
    ShortMessageFactory.control_change F ch a b = mkControlChange F ch a b ∧
    ShortMessageFactory.program_change F ch a = mkProgramChange F ch a ∧
    ShortMessageFactory.polyphonic_key_pressure F ch a b = mkPolyphonicKeyPressure F ch a b ∧
    ShortMessageFactory.channel_pressure F ch a = mkChannelPressure F ch a ∧
    ShortMessageFactory.pitch_bend_change F ch v = mkPitchBendChange F ch v ∧
    ShortMessageFactory.time_code_quarter_frame F f = mkTimeCodeQuarterFrame F f ∧
    ShortMessageFactory.song_position_pointer F v = mkSongPositionPointer F v ∧
    ShortMessageFactory.song_select F a = mkSongSelect F a :=
  ⟨bind_ok _, bind_ok _, bind_ok _, bind_ok _, bind_ok _, bind_ok _, bind_ok _, bind_ok _, bind_ok _, bind_ok _⟩

/-- the parameterless constructors -/
theorem plain (F : Factory β) :
    ShortMessageFactory.system_exclusive_start F = mkSystemExclusiveStart F ∧
    ShortMessageFactory.tune_request F = mkPlain F .tuneRequest ∧
    ShortMessageFactory.system_exclusive_end F = mkPlain F .systemExclusiveEnd ∧
    ShortMessageFactory.timing_clock F = mkPlain F .timingClock ∧
    ShortMessageFactory.start F = mkPlain F .start ∧
    ShortMessageFactory.continue_ F = mkPlain F .continue ∧
    ShortMessageFactory.stop F = mkPlain F .stop ∧
    ShortMessageFactory.active_sensing F = mkPlain F .activeSensing ∧
    ShortMessageFactory.system_reset F = mkPlain F .systemReset :=
  ⟨bind_ok _, bind_ok _, bind_ok _, bind_ok _, bind_ok _, bind_ok _, bind_ok _, bind_ok _, bind_ok _⟩

theorem from_bytes {β : Type} (F : Factory β) (b : Bytes) : ShortMessageFactory.from_bytes F b = fromBytes F b :=
  bind_congr fun o => by cases o <;> rfl

end FD

namespace EN
open Midi.Gen.ShortMsg
theorem type_super_type (t : MsgType) : ShortMessageType.super_type t = .ok t.superType := by cases t <;> rfl
theorem fuzzy_main_category (s : FuzzySuperType) : FuzzyMessageSuperType.main_category s = .ok s.mainCategory := by
  cases s <;> rfl
theorem super_main_category (s : SuperType) : MessageSuperType.main_category s = .ok s.mainCategory := by
  cases s <;> rfl
end EN
end Midi.GenTie
