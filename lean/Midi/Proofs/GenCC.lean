/-
The 14-bit Control Change scanner as TRANSLATED from control_change_14_bit_message_scanner.rs (Midi.Gen.CCScan,
regenerated on every run) computes exactly what the hand-written model (Midi.Model.CC14) computes: same outputs,
same panics, states related by a bijection.  Every theorem about the hand-written scanner therefore holds of the
translated one.
-/
import Midi.Gen.CCScan
import Midi.Proofs.GenTie
set_option linter.unusedSimpArgs false
namespace Midi.GenTie
open Midi Midi.Spec Midi.Gen

namespace CC
abbrev GChan := CCScan.ScannerForOneChannel
abbrev GScanner := CCScan.ControlChange14BitMessageScanner

def chan (s : GChan) : CCChan := ⟨s.msb_controller_number, s.value_msb⟩
def gchan (s : CCChan) : GChan := ⟨s.msbCn, s.valueMsb⟩
@[simp] theorem gchan_chan (s : GChan) : gchan (chan s) = s := rfl
@[simp] theorem chan_gchan (s : CCChan) : chan (gchan s) = s := rfl
def scanner (s : GScanner) : CCScanner := s.scanner_by_channel.map chan
def gscanner (s : CCScanner) : GScanner := ⟨s.map gchan⟩
@[simp] theorem gscanner_scanner (s : GScanner) : gscanner (scanner s) = s :=
  congrArg (⟨·⟩ : _ → GScanner) (map_map_inv gchan_chan s.scanner_by_channel)
@[simp] theorem scanner_gscanner (s : CCScanner) : scanner (gscanner s) = s := map_map_inv chan_gchan s

theorem map_set_back (v : Vector GChan 16) (ch : Nat) (h : ch < 16) (a : CCChan) :
    Vector.map gchan ((Vector.map chan v).set ch a h) = v.set ch (gchan a) h :=
  map_set_map gchan_chan v ch h a

theorem process_value_lsb (s : GChan) (channel cn cv : Nat) :
    s.process_value_lsb channel cn cv = back gchan ((chan s).processValueLsb channel cn cv) := by
  obtain ⟨m, v⟩ := s
  unfold CCScan.ScannerForOneChannel.process_value_lsb CCChan.processValueLsb
  cases m <;> cases v <;> try rfl
  rename_i m v
  simp only [chan, bind, Except.bind]
  rcases cnLsbOf m with e | _ | l <;> try rfl
  by_cases h : cn = l
  · simp only [h, bne_self_eq_false, ne_eq, not_true, if_false, Bool.false_eq_true]
    cases CC14Msg.new channel m (build14 v cv) <;> rfl
  · simp [h, back, gchan]

theorem chan_feed {α : Type} (I : Impl α) (s : GChan) (x : α) :
    s.feed I x = back gchan (CCChan.feed I (chan s) x) := by
  unfold CCScan.ScannerForOneChannel.feed CCChan.feed
  rcases toStructured I x with e | m <;> try rfl
  cases m <;> try rfl
  rename_i channel cn cv
  simp only [bind, Except.bind, process_value_lsb, CCScan.ScannerForOneChannel.process_value_msb]
  by_cases h1 : cn ≤ 31
  · have : ¬ 32 ≤ cn := by omega  -- needed when the source tests the upper range first
    simp [h1, this, back, gchan]
  · by_cases h2 : cn ≤ 63
    · have : 32 ≤ cn := by omega
      simp only [h1, h2, this, and_self, if_true, if_false]
      cases (chan s).processValueLsb channel cn cv <;> rfl
    · simp [h1, h2, back]

theorem feed {α : Type} (I : Impl α) (s : GScanner) (x : α) :
    s.feed I x = back gscanner (CCScanner.feed I (scanner s) x) := by
  -- the model's `feed` is `routeFeed`, which `groute_back` ties to `groute`; the translated body is `groute`, whatever
  -- `channel` returns
  rw [CCScanner.feed_eq]
  refine .trans ?_ (groute_back gchan_chan (⟨·⟩ : _ → GScanner) none _ (fun t => chan_feed I t x) _)
  unfold CCScan.ControlChange14BitMessageScanner.feed groute
  rcases channel I x with _ | _ | _ <;> rfl

theorem reset (s : GScanner) : s.reset = .ok ((), gscanner (scanner s).reset) :=
  reset_back (⟨·⟩ : _ → GScanner) s.scanner_by_channel fun _ => rfl

theorem default_eq : (default : GScanner) = gscanner CCScanner.new := by
  rw [gscanner, CCScanner.new, Vector.map_replicate]; rfl

theorem new : CCScan.ControlChange14BitMessageScanner.new = .ok (gscanner CCScanner.new) := congrArg Except.ok default_eq

/-- one operation on the translated scanner -/
def gstep (s : GScanner) : Op → Res (Option CC14Msg × GScanner)
  | .feed b => s.feed rawImpl b
  | .reset => do let (_, s') ← s.reset; .ok (none, s')

def grun (s : GScanner) : List Op → Res (List (Option CC14Msg) × GScanner)
  | [] => .ok ([], s)
  | op :: ops => do
    let (o, s') ← gstep s op
    let (os, s'') ← grun s' ops
    .ok (o :: os, s'')

theorem gstep_eq (s : GScanner) (op : Op) : gstep s op = back gscanner (ccStep (scanner s) op) := by
  cases op with
  | feed b => exact feed rawImpl s b
  | reset => simp [gstep, ccStep, reset, back, bind, Except.bind]

theorem grun_eq (s : GScanner) (ops : List Op) : grun s ops = back gscanner (ccRun (scanner s) ops) :=
  ccRun_eq _ _ ▸ run_back gscanner_scanner scanner_gscanner gstep_eq (fun _ => rfl) (fun _ _ _ => rfl) s ops

/-- a feed and a run of the hand-written model, read on the translated scanner -/
theorem feed_of_model {α : Type} {I : Impl α} {s s' : CCScanner} {x : α} {o} (h : s.feed I x = .ok (s', o)) :
    (gscanner s).feed I x = .ok (o, gscanner s') := by
  rw [feed, scanner_gscanner, h]; rfl

theorem grun_of_model {s s' : CCScanner} {ops : List Op} {os} (h : ccRun s ops = .ok (s', os)) :
    grun (gscanner s) ops = .ok (os, gscanner s') := by
  rw [grun_eq, scanner_gscanner, h]; rfl

theorem grun_default {s' : CCScanner} {ops : List Op} {os} (h : ccRun CCScanner.new ops = .ok (s', os)) :
    grun default ops = .ok (os, gscanner s') :=
  default_eq ▸ grun_of_model h

end CC
end Midi.GenTie
