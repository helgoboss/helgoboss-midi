/- Soundness of the per-row criterion for conversions. -/
import Midi.Spec.Numeric
namespace Midi
open Midi.Spec

/-! ### `as` casts: the identity on the values the target type holds -/

theorem PrimTy.bits_pos {pw : Nat} (hpw : 0 < pw) (p : PrimTy) : 0 < p.bits pw := by
  unfold PrimTy.bits; split <;> omega

/-- reducing modulo `2k` and reading the result as a two's-complement number gives back any `x` with `-k ≤ x < k` -/
theorem wrap_signed (k x : Int) (h1 : -k ≤ x) (h2 : x < k) :
    (if x % (2 * k) ≥ 2 * k / 2 then x % (2 * k) - 2 * k else x % (2 * k)) = x := by
  by_cases hx : 0 ≤ x
  · rw [Int.emod_eq_of_lt hx (by omega)]; split <;> omega
  · rw [← Int.add_emod_right, Int.emod_eq_of_lt (by omega) (by omega)]; split <;> omega

/-- Generic in the bit width: an unsigned type holds `0 ≤ x < 2^bits`, where `%` does nothing; a signed one
    holds `-k ≤ x < k` with `2^bits = 2k`. -/
theorem PrimTy.cast_of_inRange {pw : Nat} (hpw : 0 < pw) (p : PrimTy) (x : Int)
    (h1 : p.minVal pw ≤ x) (h2 : x ≤ p.maxVal pw) : p.cast pw x = x := by
  unfold PrimTy.cast
  unfold PrimTy.minVal at h1; unfold PrimTy.maxVal at h2
  cases hs : p.signed <;> simp only [hs, Bool.false_eq_true, if_false, if_true] at h1 h2 ⊢
  · exact Int.emod_eq_of_lt h1 (by omega)
  · rw [← Nat.two_pow_pred_mul_two (p.bits_pos hpw), Nat.mul_comm, Int.natCast_mul]
    exact wrap_signed _ x h1 (by omega)

theorem PrimTy.zero_inRange (pw : Nat) (p : PrimTy) : p.minVal pw ≤ 0 ∧ 0 ≤ p.maxVal pw := by
  unfold PrimTy.minVal PrimTy.maxVal
  have := Nat.two_pow_pos (p.bits pw - 1)
  have := Nat.two_pow_pos (p.bits pw)
  split <;> omega

/-! ### the macro bodies with a restricted type `B` as destination -/

theorem NewtypeDef.isValid_iff (T : NewtypeDef) (x : Int) : T.isValid x = true ↔ 0 ≤ x ∧ x ≤ (T.max : Int) := by
  simp [NewtypeDef.isValid]

theorem NewtypeDef.isValid_natCast (T : NewtypeDef) (v : Nat) : T.isValid v = decide (v ≤ T.max) := by
  simp [NewtypeDef.isValid]

section
variable {pw : Nat} (hpw : 0 < pw) {B : NewtypeDef} (hfit : (B.max : Int) ≤ B.repr.maxVal pw)
include hpw hfit

/-- `Self(x as _)`: a valid payload survives the cast into the representation type -/
theorem cast_payload {x : Int} (hx : 0 ≤ x ∧ x ≤ (B.max : Int)) : B.repr.cast pw x = x :=
  B.repr.cast_of_inRange hpw x (by have := (B.repr.zero_inRange pw).1; omega) (by omega)

/-- `if !Self::is_valid(x) { Err } else { Ok(Self(x as _)) }` -/
theorem try_body (x : Int) :
    (if B.isValid x then some (B.repr.cast pw x) else none) =
      if 0 ≤ x ∧ x ≤ (B.max : Int) then some x else none := by
  by_cases hx : 0 ≤ x ∧ x ≤ (B.max : Int)
  · rw [if_pos ((B.isValid_iff x).mpr hx), if_pos hx, cast_payload hpw hfit hx]
  · rw [if_neg (mt (B.isValid_iff x).mp hx), if_neg hx]

end

theorem inTy_nt {pw j B} (hB : ntDef? j = some B) (x : Int) : inTy pw (.nt j) x ↔ 0 ≤ x ∧ x ≤ (B.max : Int) := by
  simp [inTy, tyLo, tyHi, hB]

theorem convSpec_nt {pw j B} (hB : ntDef? j = some B) (k : ConvKind) (s : Ty) (x : Int) :
    convSpec pw ⟨k, s, .nt j⟩ x =
      if k.isTry then (if 0 ≤ x ∧ x ≤ (B.max : Int) then some x else none) else some x := by
  simp [convSpec, tyLo, tyHi, hB]

theorem convSpec_some {pw e x v} (h : convSpec pw e x = some v) :
    v = x ∧ (e.kind.isTry = true → inTy pw e.dst x) := by
  unfold convSpec at h; unfold inTy
  split at h
  · split at h
    · split at h
      · cases h; exact ⟨rfl, fun _ => ‹_›⟩
      · cases h
    · cases h; exact ⟨rfl, fun hk => absurd hk ‹_›⟩
  · cases h

theorem convSpec_of_inTy {pw e x} (h : inTy pw e.dst x) : convSpec pw e x = some x := by
  unfold convSpec; unfold inTy at h
  split at h
  · rw [if_pos h, ite_self]
  · exact h.elim

/-- The second half of `Faithful` follows from the first: an infallible conversion needs the source range inside
    the destination's, a fallible one has checked. -/
theorem faithful_of_spec {pw e} (heq : ∀ x, inTy pw e.src x → convModel pw e x = convSpec pw e x)
    (hsub : e.kind.isTry = false → ∀ x, inTy pw e.src x → inTy pw e.dst x) : Faithful pw e := by
  intro x hx
  refine ⟨heq x hx, fun v hv => ?_⟩
  obtain ⟨rfl, hd⟩ := convSpec_some (heq x hx ▸ hv)
  cases hk : e.kind.isTry
  · exact hsub hk v hx
  · exact hd hk

section
variable {pw : Nat} (hpw : 0 < pw) {j : Nat} {B : NewtypeDef} (hB : ntDef? j = some B)
  (hfit : (B.max : Int) ≤ B.repr.maxVal pw) {k : ConvKind} (s : Ty)
include hpw hB hfit

/-- `impl_from_*_to_newtype` on a value of the destination's range -/
theorem from_nt (hk : k.isTry = false) {x : Int} (hx : inTy pw (.nt j) x) :
    (ntDef? j).map (fun B => B.repr.cast pw x) = convSpec pw ⟨k, s, .nt j⟩ x := by
  rw [convSpec_nt hB, hk, hB, Option.map, cast_payload hpw hfit ((inTy_nt hB x).mp hx)]; rfl

/-- `impl_try_from_*_to_newtype` on any value -/
theorem try_nt (hk : k.isTry = true) (x : Int) :
    (ntDef? j).bind (fun B => if B.isValid x then some (B.repr.cast pw x) else none) =
      convSpec pw ⟨k, s, .nt j⟩ x := by
  rw [convSpec_nt hB, hk, hB, Option.bind, try_body hpw hfit]; rfl

end

theorem payload_fits {pw j} (h : (match ntDef? j with
      | some B => decide ((B.max : Int) ≤ B.repr.maxVal pw) | none => false) = true) :
    ∃ B, ntDef? j = some B ∧ (B.max : Int) ≤ B.repr.maxVal pw := by
  split at h
  · exact ⟨_, ‹_›, of_decide_eq_true h⟩
  · cases h

/-- The criterion is sound whatever the (positive) pointer width. -/
theorem faithful_of_entryOk {pw : Nat} (hpw : 0 < pw) (e : ConvEntry) (h : entryOk pw e = true) :
    Faithful pw e := by
  obtain ⟨kind, src, dst⟩ := e
  unfold entryOk at h
  simp only [Bool.and_eq_true] at h
  obtain ⟨⟨⟨hshape, hpay⟩, -⟩, hs⟩ := h
  have hsub : kind.isTry = false → ∀ x, inTy pw src x → inTy pw dst x := by
    intro hk x hx
    rw [hk, Bool.false_or] at hs
    unfold inTy at hx ⊢
    split at hs
    · next hsl hsh hdl hdh =>
      simp only [hsl, hsh] at hx
      simp only [hdl, hdh]
      have := of_decide_eq_true hs
      omega
    · cases hs
  refine faithful_of_spec (fun x hx => ?_) hsub
  -- the shapes the criterion admits are the six arms of `convModel`
  split at hshape
  · obtain ⟨B, hB, hfit⟩ := payload_fits hpay
    exact from_nt hpw hB hfit _ rfl (hsub rfl x hx)
  · next p =>
    have hd : inTy pw (.prim p) x := hsub rfl x hx
    exact congrArg some (p.cast_of_inRange hpw x hd.1 hd.2)
  · obtain ⟨B, hB, hfit⟩ := payload_fits hpay
    exact from_nt hpw hB hfit _ rfl (hsub rfl x hx)
  · obtain ⟨B, hB, hfit⟩ := payload_fits hpay
    exact try_nt hpw hB hfit _ rfl x
  · obtain ⟨B, hB, hfit⟩ := payload_fits hpay
    exact try_nt hpw hB hfit _ rfl x
  · next q _ j =>
    -- `<V>::from(value)` keeps the value, because `V` holds every value of the source type
    obtain ⟨B, hB, hfit⟩ := payload_fits hpay
    have hwide := of_decide_eq_true hshape
    have hq : q.cast pw x = x := q.cast_of_inRange hpw x (Int.le_trans hwide.1 hx.1) (Int.le_trans hx.2 hwide.2)
    show (ntDef? j).bind
      (fun B => if B.isValid (q.cast pw x) then some (B.repr.cast pw (q.cast pw x)) else none) = _
    rw [hq]
    exact try_nt hpw hB hfit _ rfl x
  · cases hshape

theorem entryOk_sound (pw : Nat) (hpw : pw = 16 ∨ pw = 32 ∨ pw = 64) (e : ConvEntry)
    (h : entryOk pw e = true) : Faithful pw e :=
  faithful_of_entryOk (by omega) e h

end Midi
