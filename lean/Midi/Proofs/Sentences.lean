/-
The core of C12: what a channel of the polling scanner reports over a scheduled sentence.  Every statement has the form
  `tot ch c (the events from here up to the final poll) = flush ch c ++ (what the rest of the sentence means)`,
from ANY state `c` the statement allows: first what is still owed, then the intended messages.  It is proved from the
back: `Cont` is the statement for the blocks still to come, `units_run` adds the remaining units of a block (`UState`:
the channel between two units), `block_run` a whole block from any state.  The schedule is consumed from the front
(`Sched`, `Sched.uncons`); a gap in which polls are unrestricted can at most settle a pending byte, and what it then
reports is what was owed (`gap_outer`); a gap inside a two-message unit does nothing (`gap_inner`).
At the end: the schedule without gaps (`plain_run`) and the one-block sentence a message is encoded as (`blockOf`).
-/
import Midi.Proofs.Polling
import Midi.Proofs.Bits
import Midi.Spec.Grammar
import Midi.Spec.Monitor
namespace Midi.Sent
open Midi Midi.Spec

/-- all messages reported by a channel over a list of events -/
def tot (ch : Nat) (c : PChan) (es : List PEv) : List PNMsg := reports (c.evs ch es).2

theorem tot_nil (ch : Nat) (c : PChan) : tot ch c [] = [] := rfl

theorem tot_cons (ch : Nat) (c : PChan) (e : PEv) (es : List PEv) :
    tot ch c (e :: es) = outMsgs (c.ev ch e).2 ++ tot ch (c.ev ch e).1 es := by
  simp [tot, PChan.evs, reports, outMsgs]

theorem ev_other (ch : Nat) (c : PChan) (cn cv now : Nat) (h : ¬ (cn = 6 ∨ cn = 38 ∨ (96 ≤ cn ∧ cn ≤ 101))) :
    c.ev ch (.cc cn cv now) = (c, (none, none)) := by
  simp only [PChan.ev, c.state.onCC_other now ch cn cv h]

/-- what is owed is what a late poll reports -/
theorem flush_pending (ch : Nat) {c : PChan} {ns : NumberState} {arr f : Nat} {k : Bool}
    (hs : c.state = .valuePending ns arr f k) : flush ch c = (resolvePending ch ns f k).toList := by
  unfold flush
  rw [hs]
  cases k <;> rfl

theorem flush_notPending (ch : Nat) (c : PChan) (h : ∀ ns arr f k, c.state ≠ .valuePending ns arr f k) :
    flush ch c = [] := by
  unfold flush
  split
  · next ns arr f hs => exact absurd hs (h ns arr f true)
  · rfl

/-- an unrestricted gap: whatever it reports is what was owed; a late poll in it may settle a pending byte, so what holds
    of the state afterwards is whatever survives that -/
theorem gap_outer (ch : Nat) (gap : List GapEv) (P : PState → Prop)
    (hP : ∀ ns arr f k, P (.valuePending ns arr f k) → P (.waitingForFirstValue ns)) :
    ∀ (c : PChan), (∀ g ∈ gap, g.Valid) → P c.state → ∀ (rest : List PEv) (Y : List PNMsg),
    (∀ st, P st → tot ch { c with state := st } rest = flush ch { c with state := st } ++ Y) →
    tot ch c (gap.map GapEv.toEv ++ rest) = flush ch c ++ Y := by
  induction gap with
  | nil => intro c hv h rest Y K; exact K c.state h
  | cons g gap ih =>
    intro c hv h rest Y K
    have hvg := hv g List.mem_cons_self
    have hv' : ∀ g ∈ gap, g.Valid := fun g hg => hv g (List.mem_cons_of_mem _ hg)
    cases g with
    | other cn cv now =>
      simp only [List.map_cons, List.cons_append, GapEv.toEv, tot_cons]
      rw [ev_other ch c cn cv now hvg]
      simp only [outMsgs, Option.toList, List.nil_append]
      exact ih c hv' h rest Y K
    | poll now =>
      simp only [List.map_cons, List.cons_append, GapEv.toEv, tot_cons, PChan.ev]
      rcases c.poll_cases now ch with ⟨e, _⟩ | ⟨ns, arr, f, k, hs, _, e⟩ <;> rw [e]
      · exact ih c hv' h rest Y K
      · rw [ih { c with state := .waitingForFirstValue ns } hv' (hP ns arr f k (hs ▸ h)) rest Y K, flush_pending ch hs]
        simp [outMsgs, flush]

/-- a gap inside a two-message unit (polls early w.r.t. the stamp of the pending byte) has no effect -/
theorem gap_inner (ch : Nat) (gap : List GapEv) (c : PChan) (ns : NumberState) (t0 f : Nat) (k : Bool)
    (hs : c.state = .valuePending ns t0 f k)
    (hv : ∀ g ∈ gap, g.Valid) (he : ∀ g ∈ gap, ∀ t, g = .poll t → t - t0 < c.timeout) (rest : List PEv) :
    tot ch c (gap.map GapEv.toEv ++ rest) = tot ch c rest := by
  induction gap with
  | nil => rfl
  | cons g gap ih =>
    have hvg := hv g List.mem_cons_self
    have heg := he g List.mem_cons_self
    have ih' := ih (fun g hg => hv g (List.mem_cons_of_mem _ hg)) (fun g hg => he g (List.mem_cons_of_mem _ hg))
    cases g with
    | other cn cv now =>
      simp only [List.map_cons, List.cons_append, GapEv.toEv, tot_cons]
      rw [ev_other ch c cn cv now hvg]
      simp only [outMsgs, Option.toList, List.nil_append]
      exact ih'
    | poll now =>
      simp only [List.map_cons, List.cons_append, GapEv.toEv, tot_cons, PChan.ev]
      rw [c.poll_early now ch hs (heg now rfl)]
      exact ih'

def nsOf (number : Nat) (reg : Bool) : NumberState := { msb := number / 128, lsb := number % 128, isRegistered := reg }

theorem nsOf_number (number : Nat) (reg : Bool) (h : number < 16384) : (nsOf number reg).number = number := by
  simp only [nsOf, NumberState.number]
  rw [build14_eq _ _ (by omega) (by omega)]; omega

@[simp] theorem nsOf_isReg (number : Nat) (reg : Bool) : (nsOf number reg).isRegistered = reg := rfl

def selP (reg msbFirst : Bool) (number : Nat) : Nat × Nat :=
  if msbFirst then (if reg then 101 else 99, number / 128) else (if reg then 100 else 98, number % 128)
def selQ (reg msbFirst : Bool) (number : Nat) : Nat × Nat :=
  if msbFirst then (if reg then 100 else 98, number % 128) else (if reg then 101 else 99, number / 128)

/-- the two number bytes of a selection, from any state: the first flushes what was owed and leaves nothing pending,
    the second completes the number -/
theorem sel_bytes (c : PChan) (reg msbFirst : Bool) (number t1 t2 ch : Nat) :
    outMsgs (c.state.onCC t1 ch (selP reg msbFirst number).1 (selP reg msbFirst number).2).2 = flush ch c ∧
    (∀ ns arr f k,
      (c.state.onCC t1 ch (selP reg msbFirst number).1 (selP reg msbFirst number).2).1 ≠ .valuePending ns arr f k) ∧
    ((c.state.onCC t1 ch (selP reg msbFirst number).1 (selP reg msbFirst number).2).1.onCC t2 ch
        (selQ reg msbFirst number).1 (selQ reg msbFirst number).2) = (.waitingForFirstValue (nsOf number reg), (none, none)) := by
  have eP : (selP reg msbFirst number).1 = (if reg then 100 else 98) + (if msbFirst then 1 else 0) := by
    cases reg <;> cases msbFirst <;> rfl
  have eQ : (selQ reg msbFirst number).1 = (if reg then 100 else 98) + (if !msbFirst then 1 else 0) := by
    cases reg <;> cases msbFirst <;> rfl
  simp only [eP, eQ, PState.onCC_number]
  obtain ⟨to, st⟩ := c
  rcases st with ⟨_ | v, r, _ | _⟩ | ns | ⟨ns, arr, f, _ | _⟩ | ⟨ns, a, b⟩ <;> cases msbFirst <;>
    exact ⟨rfl, fun _ _ _ _ h => (nomatch h), rfl⟩

/-- the channel state between the value units of a block with number state `ns`: `r` is the retained MSB,
    `tcur` the time of the last message; the two flags are `first`, `a14`, the arguments of `unitsOk`.  The third case
    is an MSB pending from a preceding `msbAlone`. -/
inductive UState (ns : NumberState) (r tcur : Nat) : Bool → Bool → PState → Prop
  | complete (b : Nat) : UState ns r tcur false true (.fourteenComplete ns r b)
  | waiting (first : Bool) : UState ns r tcur first false (.waitingForFirstValue ns)
  | pending (f : Nat) : UState ns r tcur false false (.valuePending ns tcur f true)

theorem UState.settle {ns ns' : NumberState} {r tcur arr f : Nat} {first a14 k : Bool}
    (h : UState ns r tcur first a14 (.valuePending ns' arr f k)) : UState ns r tcur first a14 (.waitingForFirstValue ns') := by
  cases h
  exact .waiting false

theorem tot_cc (ch : Nat) (c : PChan) (cn cv now : Nat) (rest : List PEv) :
    tot ch c (.cc cn cv now :: rest) =
      outMsgs (c.state.onCC now ch cn cv).2 ++ tot ch { c with state := (c.state.onCC now ch cn cv).1 } rest := by
  rw [tot_cons]; rfl

theorem u_msb {ns : NumberState} {r tcur : Nat} {first a14 : Bool} {c : PChan}
    (hU : UState ns r tcur first a14 c.state) (ch v now : Nat) :
    (c.state.onCC now ch 6 v).1 = .valuePending ns now v true ∧ outMsgs (c.state.onCC now ch 6 v).2 = flush ch c := by
  obtain ⟨to, st⟩ := c
  cases hU <;> exact ⟨rfl, rfl⟩

theorem u_lsb_after_msb (ns : NumberState) (ch t0 m now l : Nat) :
    (PState.valuePending ns t0 m true).onCC now ch 38 l =
      (.fourteenComplete ns m l, (some (.fourteenBit ch ns.number (build14 m l) ns.isRegistered), none)) := rfl

theorem u_further (ns : NumberState) (ch r b now l : Nat) :
    (PState.fourteenComplete ns r b).onCC now ch 38 l =
      (.fourteenComplete ns r l, (some (.fourteenBit ch ns.number (build14 r l) ns.isRegistered), none)) := rfl

theorem u_lsb_first (ns : NumberState) (ch now l : Nat) :
    (PState.waitingForFirstValue ns).onCC now ch 38 l = (.valuePending ns now l false, (none, none)) := rfl

theorem u_msb_after_lsb (ns : NumberState) (ch t0 l now m : Nat) :
    (PState.valuePending ns t0 l false).onCC now ch 6 m =
      (.fourteenComplete ns m l, (some (.fourteenBit ch ns.number (build14 m l) ns.isRegistered), none)) := rfl

theorem u_incDec {ns : NumberState} {r tcur : Nat} {first a14 : Bool} {c : PChan}
    (hU : UState ns r tcur first a14 c.state) (ch v now : Nat) (inc : Bool) :
    (c.state.onCC now ch (if inc then 96 else 97) v).1 = .waitingForFirstValue ns ∧
    outMsgs (c.state.onCC now ch (if inc then 96 else 97) v).2 =
      flush ch c ++ [.sevenBit ch ns.number v ns.isRegistered (if inc then .dataIncrement else .dataDecrement)] := by
  rw [PState.onCC_incDec]
  obtain ⟨to, st⟩ := c
  cases hU <;> exact ⟨rfl, rfl⟩

def endTime (t : Nat) : List Timed → Nat
  | [] => t
  | m :: ms => endTime m.now ms

def chainFrom (t : Nat) : List Timed → Prop
  | [] => True
  | m :: ms => (m.inner = true → m.t0 = t) ∧ chainFrom m.now ms

def GapsOk (τ : Nat) (sched : List Timed) : Prop := ∀ m ∈ sched, innerPollsEarly τ m ∧ ∀ g ∈ m.gap, g.Valid

def key (m : Timed) : Nat × Nat × Bool := (m.cn, m.cv, m.inner)

def evsOf (tEnd : Nat) (sched : List Timed) : List PEv := schedEvents sched ++ [.poll tEnd]

theorem evsOf_cons (tEnd : Nat) (m : Timed) (ms : List Timed) :
    evsOf tEnd (m :: ms) = m.gap.map GapEv.toEv ++ (.cc m.cn m.cv m.now :: evsOf tEnd ms) := by
  simp [evsOf, schedEvents, Timed.events]

def ushape (u : VUnit) : List (Nat × Nat × Bool) :=
  match u.msgs with
  | [a, c] => [(a.1, a.2, false), (c.1, c.2, true)]
  | l => l.map (fun p => (p.1, p.2, false))

theorem shape_eq (b : Block) :
    b.shape = b.selection.map (fun p => (p.1, p.2, false)) ++ b.units.flatMap ushape := rfl

/-- `sched` schedules the messages `xs` after time `t`: the messages in order, an inner message's `t0` the time of the
    message before it (`t` for the first), gaps as `Good` demands, and the final poll at `tEnd` at least `τ` after the
    last message -/
def Sched (τ tEnd t : Nat) (xs : List (Nat × Nat × Bool)) (sched : List Timed) : Prop :=
  sched.map key = xs ∧ chainFrom t sched ∧ GapsOk τ sched ∧ endTime t sched + τ ≤ tEnd

theorem Sched.uncons {τ tEnd t : Nat} {x : Nat × Nat × Bool} {xs : List (Nat × Nat × Bool)} {sched : List Timed}
    (h : Sched τ tEnd t (x :: xs) sched) :
    ∃ m sched', sched = m :: sched' ∧ (m.cn = x.1 ∧ m.cv = x.2.1 ∧ m.inner = x.2.2) ∧ (m.inner = true → m.t0 = t) ∧
      innerPollsEarly τ m ∧ (∀ g ∈ m.gap, g.Valid) ∧ Sched τ tEnd m.now xs sched' := by
  obtain ⟨hmap, hch, hg, hend⟩ := h
  cases sched with
  | nil => cases hmap
  | cons m sched' =>
    simp only [List.map_cons, List.cons.injEq] at hmap
    refine ⟨m, sched', rfl, by rw [← hmap.1]; exact ⟨rfl, rfl, rfl⟩, hch.1, (hg m List.mem_cons_self).1,
      (hg m List.mem_cons_self).2, hmap.2, hch.2, fun x hx => hg x (List.mem_cons_of_mem _ hx), hend⟩

/-- what the rest of the sentence (after the current block) has to deliver; a pending MSB must be stamped `tcur`, so
    that the final poll is late for it -/
def Cont (ch τ tEnd : Nat) (tailShape : List (Nat × Nat × Bool)) (Y : List PNMsg) : Prop :=
  ∀ (c : PChan) (tcur : Nat) (sched : List Timed), c.timeout = τ →
    (∀ ns arr f, c.state = .valuePending ns arr f true → arr = tcur) → Sched τ tEnd tcur tailShape sched →
    tot ch c (evsOf tEnd sched) = flush ch c ++ Y

/-- take the next message of the schedule where polls are unrestricted (the first message of a unit): its gap leaves
    the channel between units as it was, or with a pending MSB settled by a late poll; then the message is fed -/
theorem take_outer (ch : Nat) {τ tEnd : Nat} {ns : NumberState} {r tcur : Nat} {first a14 : Bool} (c : PChan)
    (hU : UState ns r tcur first a14 c.state) {sched : List Timed} (cn cv : Nat)
    {xs : List (Nat × Nat × Bool)} (hS : Sched τ tEnd tcur ((cn, cv, false) :: xs) sched) (Z : List PNMsg)
    (K : ∀ (st : PState) (m : Timed) (sched' : List Timed), UState ns r tcur first a14 st →
      Sched τ tEnd m.now xs sched' →
      tot ch { c with state := st } (.cc cn cv m.now :: evsOf tEnd sched') = flush ch { c with state := st } ++ Z) :
    tot ch c (evsOf tEnd sched) = flush ch c ++ Z := by
  obtain ⟨m, sched', rfl, ⟨hcn, hcv, -⟩, -, -, hgv, hS'⟩ := hS.uncons
  rw [evsOf_cons, hcn, hcv]
  exact gap_outer ch m.gap _ (fun _ _ _ _ => UState.settle) c hgv hU _ Z fun st hU1 => K st m sched' hU1 hS'

/-- take the second message of a two-message unit: polls in its gap are early for the pending first byte, so the gap
    has no effect -/
theorem take_inner (ch : Nat) {τ tEnd : Nat} (c : PChan) (hto : c.timeout = τ) (ns : NumberState) (tcur f : Nat) (k : Bool)
    (hs : c.state = .valuePending ns tcur f k) {sched : List Timed} (cn cv : Nat) {xs : List (Nat × Nat × Bool)}
    (hS : Sched τ tEnd tcur ((cn, cv, true) :: xs) sched) :
    ∃ (m : Timed) (sched' : List Timed), Sched τ tEnd m.now xs sched' ∧
      tot ch c (evsOf tEnd sched) = tot ch c (.cc cn cv m.now :: evsOf tEnd sched') := by
  obtain ⟨m, sched', rfl, ⟨hcn, hcv, hin⟩, ht0, hpe, hgv, hS'⟩ := hS.uncons
  refine ⟨m, sched', hS', ?_⟩
  rw [evsOf_cons, hcn, hcv]
  exact gap_inner ch m.gap c ns tcur f k hs hgv (fun g hgm t hgt => by
    have := hpe hin g hgm t hgt
    rwa [ht0 hin, ← hto] at this) _

theorem units_run (ch τ tEnd number : Nat) (reg : Bool) (hn : number < 16384)
    (tailShape : List (Nat × Nat × Bool)) (Y : List PNMsg) (K : Cont ch τ tEnd tailShape Y) :
    ∀ (us : List VUnit) (first a14 : Bool) (r : Nat) (c : PChan) (tcur : Nat) (sched : List Timed),
      unitsOk first a14 us = true → (∀ u ∈ us, u.Valid) → r < 128 → c.timeout = τ →
      UState (nsOf number reg) r tcur first a14 c.state → Sched τ tEnd tcur (us.flatMap ushape ++ tailShape) sched →
      tot ch c (evsOf tEnd sched) = flush ch c ++ (intendedUnits ch number reg r us ++ Y) := by
  intro us
  induction us with
  | nil =>
    intro first a14 r c tcur sched hok hval hr hto hU hS
    refine K c tcur sched hto ?_ hS
    intro ns arr f hst
    rw [hst] at hU
    cases hU
    rfl
  | cons u us ih =>
    intro first a14 r c tcur sched hok hval hr hto hU hS
    have hvu := hval u List.mem_cons_self
    have hval' : ∀ u ∈ us, u.Valid := fun u hu => hval u (List.mem_cons_of_mem _ hu)
    have hnum := nsOf_number number reg hn
    simp only [unitsOk, Bool.and_eq_true] at hok
    obtain ⟨hside, hok⟩ := hok
    cases u with
    | msbAlone v =>
      refine take_outer ch c hU 6 v hS _ fun st m sched' hU1 hS' => ?_
      obtain ⟨h1, h2⟩ := u_msb (c := { c with state := st }) hU1 ch v m.now
      rw [tot_cc, h1, h2, ih false false r { c with state := .valuePending (nsOf number reg) m.now v true } m.now sched' hok
        hval' hr hto (.pending v) hS']
      simp [flush, intendedUnits, hnum, PNMsg.sevenBit]
    | incDec inc v =>
      refine take_outer ch c hU (if inc then 96 else 97) v hS _ fun st m sched' hU1 hS' => ?_
      obtain ⟨h1, h2⟩ := u_incDec (c := { c with state := st }) hU1 ch v m.now inc
      rw [tot_cc, h1, h2, ih false false r { c with state := .waitingForFirstValue (nsOf number reg) } m.now sched' hok hval'
        hr hto (.waiting _) hS']
      simp [flush, intendedUnits, hnum, PNMsg.sevenBit]
    | further l =>
      obtain rfl : a14 = true := hside
      refine take_outer ch c hU 38 l hS _ fun st m sched' hU1 hS' => ?_
      cases hU1 with | complete b => ?_
      rw [tot_cc, u_further,
        ih false true r { c with state := .fourteenComplete (nsOf number reg) r l } m.now sched' hok hval' hr hto
          (.complete l) hS']
      have hl : l < 128 := hvu
      simp [flush, intendedUnits, hnum, PNMsg.fourteenBit, outMsgs, build14_eq' r l hr hl]
    | msbLsb mm l =>
      have hm : mm < 128 := hvu.1
      have hl : l < 128 := hvu.2
      refine take_outer ch c hU 6 mm hS _ fun st m sched1 hU1 hS1 => ?_
      obtain ⟨h1, h2⟩ := u_msb (c := { c with state := st }) hU1 ch mm m.now
      obtain ⟨m2, sched', hS', e⟩ := take_inner ch { c with state := .valuePending (nsOf number reg) m.now mm true } hto
        _ m.now mm true rfl 38 l hS1
      rw [tot_cc, h1, h2, e, tot_cc, u_lsb_after_msb,
        ih false true mm { c with state := .fourteenComplete (nsOf number reg) mm l } m2.now sched' hok hval' hm hto
          (.complete l) hS']
      simp [flush, intendedUnits, hnum, PNMsg.fourteenBit, outMsgs, build14_eq' mm l hm hl]
    | lsbMsb l mm =>
      have hl : l < 128 := hvu.1
      have hm : mm < 128 := hvu.2
      obtain rfl : first = true := hside
      refine take_outer ch c hU 38 l hS _ fun st m sched1 hU1 hS1 => ?_
      cases hU1
      obtain ⟨m2, sched', hS', e⟩ := take_inner ch { c with state := .valuePending (nsOf number reg) m.now l false } hto
        _ m.now l false rfl 6 mm hS1
      rw [tot_cc, u_lsb_first, e, tot_cc, u_msb_after_lsb,
        ih false true mm { c with state := .fourteenComplete (nsOf number reg) mm l } m2.now sched' hok hval' hm hto
          (.complete l) hS']
      simp [flush, intendedUnits, hnum, PNMsg.fourteenBit, outMsgs, build14_eq' mm l hm hl]

def chainTail : List Timed → Prop
  | [] => True
  | m :: ms => chainFrom m.now ms

theorem chainTail_of_chainFrom {t : Nat} {sched : List Timed} (h : chainFrom t sched) : chainTail sched := by
  cases sched with
  | nil => trivial
  | cons m ms => exact h.2

theorem selection_eq (b : Block) :
    b.selection = [selP b.reg b.msbFirst b.number, selQ b.reg b.msbFirst b.number] := by
  unfold Block.selection selP selQ
  cases b.msbFirst <;> simp

/-- one block from ANY channel state, then the rest of the sentence -/
theorem block_run (ch τ tEnd : Nat) (b : Block) (hb : b.Valid)
    (tailShape : List (Nat × Nat × Bool)) (Y : List PNMsg) (K : Cont ch τ tEnd tailShape Y)
    (c : PChan) (hto : c.timeout = τ) (t0 : Nat) (sched : List Timed)
    (hmap : sched.map key = b.shape ++ tailShape) (hch : chainTail sched) (hg : GapsOk τ sched)
    (hend : endTime t0 sched + τ ≤ tEnd) :
    tot ch c (evsOf tEnd sched) = flush ch c ++ (b.intended ch ++ Y) := by
  obtain ⟨hn, hok, hval⟩ := hb
  rw [shape_eq, selection_eq] at hmap
  -- a block does not begin with an inner message, so nothing is asked of the first `t0`
  have hS : Sched τ tEnd t0 _ sched := ⟨hmap, by
    cases sched with
    | nil => cases hmap
    | cons m ms =>
      have hin : m.inner = false := congrArg (·.2.2) (List.cons.inj hmap).1
      exact ⟨fun hi => (nomatch hin.symm.trans hi), hch⟩, hg, hend⟩
  obtain ⟨m1, sched1, rfl, ⟨hcn, hcv, -⟩, -, -, hgv, hS1⟩ := hS.uncons
  obtain ⟨m2, sched', rfl, ⟨hcn2, hcv2, -⟩, -, -, hgv2, hS'⟩ := hS1.uncons
  rw [evsOf_cons, evsOf_cons, hcn, hcv, hcn2, hcv2]
  refine gap_outer ch m1.gap (fun _ => True) (fun _ _ _ _ => id) c hgv trivial _ _ fun st1 _ => ?_
  obtain ⟨h1, h2, h3⟩ := sel_bytes { c with state := st1 } b.reg b.msbFirst b.number m1.now m2.now ch
  rw [tot_cc, h1]
  congr 1
  -- nothing is pending after the first number byte: the second gap changes nothing
  refine (gap_outer ch m2.gap (· = _) (fun ns arr f k h => absurd h.symm (h2 ns arr f k)) _ hgv2 rfl _ _ ?_).trans
    (congrArg (· ++ (b.intended ch ++ Y)) (flush_notPending ch _ h2))
  rintro _ rfl
  rw [tot_cc, h3, flush_notPending ch _ h2]
  simp only [outMsgs, Option.toList, List.nil_append]
  exact units_run ch τ tEnd b.number b.reg hn tailShape Y K b.units true false 0
    { c with state := .waitingForFirstValue (nsOf b.number b.reg) } m2.now sched' hok hval (by omega) hto
    (.waiting _) hS'

theorem blocks_tail (ch τ tEnd : Nat) : ∀ (bs : List Block), (∀ b ∈ bs, b.Valid) →
    Cont ch τ tEnd (bs.flatMap Block.shape) (intended ch bs) := by
  intro bs
  induction bs with
  | nil =>
    intro _ c tcur sched hto hE ⟨hmap, _, _, hend⟩
    obtain rfl : sched = [] := List.map_eq_nil_iff.mp hmap
    simp only [endTime] at hend
    show tot ch c [.poll tEnd] = flush ch c ++ []
    rw [tot_cons, tot_nil, PChan.ev]
    rcases c.poll_cases tEnd ch with ⟨e, hearly⟩ | ⟨ns, arr, f, k, hs, _, e⟩ <;> rw [e]
    · -- no report: nothing was owed, since a pending MSB (stamped `tcur`) would be late for this poll
      unfold flush
      split
      · next ns arr f hs => have := hE ns arr f hs; have := hearly _ _ _ _ hs; omega
      · rfl
    · rw [flush_pending ch hs]; simp [outMsgs]
  | cons b bs ih =>
    intro hv c tcur sched hto hE ⟨hmap, hch, hg, hend⟩
    exact block_run ch τ tEnd b (hv b List.mem_cons_self) _ _ (ih fun b hb => hv b (List.mem_cons_of_mem _ hb)) c hto tcur
      sched hmap (chainTail_of_chainFrom hch) hg hend

/-- a whole non-empty sentence from any channel state; what `C12.sentences` says, on the schedule's own terms.  The `0`
    in `endTime 0` is arbitrary: the schedule of a non-empty sentence is non-empty, and `endTime` then ignores it. -/
theorem sentence_run (ch τ tEnd : Nat) (c : PChan) (hto : c.timeout = τ) (bs : List Block) (hne : bs ≠ [])
    (hb : ∀ b ∈ bs, b.Valid) (sched : List Timed) (hmap : sched.map key = bs.flatMap Block.shape)
    (hch : chainTail sched) (hg : GapsOk τ sched) (hend : endTime 0 sched + τ ≤ tEnd) :
    tot ch c (evsOf tEnd sched) = flush ch c ++ intended ch bs := by
  cases bs with
  | nil => exact absurd rfl hne
  | cons b bs =>
    exact block_run ch τ tEnd b (hb b List.mem_cons_self) _ _
      (blocks_tail ch τ tEnd bs fun b' hb' => hb b' (List.mem_cons_of_mem _ hb')) c hto 0 sched hmap hch hg hend

/-! the conditions of `Good` in these terms -/

theorem endTime_eq (sched : List Timed) : ∀ t, endTime t sched = (sched.getLast?.map (·.now)).getD t := by
  induction sched with
  | nil => intro t; rfl
  | cons m ms ih =>
    intro t
    rw [endTime, ih]
    cases ms with
    | nil => rfl
    | cons m' ms' =>
      rw [List.getLast?_cons_cons]
      cases hl : (m' :: ms').getLast? with
      | none => simp at hl
      | some x => rfl

theorem chainTail_of_index (sched : List Timed)
    (h : ∀ i (h : i + 1 < sched.length), sched[i + 1].inner = true → sched[i + 1].t0 = sched[i].now) :
    chainTail sched := by
  cases sched with
  | nil => trivial
  | cons m ms =>
    show chainFrom m.now ms
    induction ms generalizing m with
    | nil => trivial
    | cons m' ms ih =>
      refine ⟨fun hi => h 0 (by simp) hi, ih m' ?_⟩
      intro i hi hin
      exact h (i + 1) (by simp at hi ⊢; omega) hin

/-! ### the plain schedule: the messages one after the other at given times, nothing in between -/

def plain (t : Nat) : List (Nat × Nat × Bool) → List Nat → List Timed
  | x :: xs, t' :: ts => ⟨[], x.1, x.2.1, t', x.2.2, t⟩ :: plain t' xs ts
  | _, _ => []

theorem plain_spec (τ tEnd : Nat) (xs : List (Nat × Nat × Bool)) : ∀ (t : Nat) (ts : List Nat),
    ts.length = xs.length → (∀ t' ∈ ts, t' + τ ≤ tEnd) → t + τ ≤ tEnd →
    Sched τ tEnd t xs (plain t xs ts) ∧
      schedEvents (plain t xs ts) = (xs.zip ts).map fun p => .cc p.1.1 p.1.2.1 p.2 := by
  induction xs with
  | nil => intro t ts _ _ ht; exact ⟨⟨rfl, trivial, fun _ h => (nomatch h), ht⟩, rfl⟩
  | cons x xs ih =>
    intro t ts hl he ht
    cases ts with
    | nil => cases hl
    | cons t' ts =>
      obtain ⟨⟨h1, h2, h3, h4⟩, h5⟩ := ih t' ts (by simpa using hl) (fun u hu => he u (List.mem_cons_of_mem _ hu))
        (he t' List.mem_cons_self)
      refine ⟨⟨by simp only [plain, List.map_cons, h1]; rfl, ⟨fun _ => rfl, h2⟩, ?_, h4⟩, ?_⟩
      · intro m hm
        rcases List.mem_cons.mp hm with rfl | hm
        · exact ⟨fun _ g hg => (nomatch hg), fun g hg => (nomatch hg)⟩
        · exact h3 m hm
      · simp only [plain, schedEvents, List.flatMap_cons, List.zip_cons_cons, List.map_cons] at h5 ⊢
        rw [h5]; rfl

/-- a non-empty sentence fed plainly (its messages one after the other at the given times, each at least the
    timeout before the final poll): flush, then the intended messages -/
theorem plain_run (ch τ tEnd : Nat) (c : PChan) (hto : c.timeout = τ) (bs : List Block) (hne : bs ≠ [])
    (hb : ∀ b ∈ bs, b.Valid) (times : List Nat) (hl : times.length = (bs.flatMap Block.shape).length)
    (hend : ∀ t ∈ times, t + τ ≤ tEnd) :
    reports (c.evs ch (((bs.flatMap Block.shape).zip times).map (fun p => .cc p.1.1 p.1.2.1 p.2) ++ [.poll tEnd])).2 =
      flush ch c ++ intended ch bs := by
  have h0 : 0 + τ ≤ tEnd := by
    cases times with
    | nil =>
      cases bs with
      | nil => exact absurd rfl hne
      | cons b bs => rw [List.flatMap_cons, shape_eq, selection_eq] at hl; simp at hl
    | cons t ts => have := hend t List.mem_cons_self; omega
  obtain ⟨⟨h1, h2, h3, h4⟩, h5⟩ := plain_spec τ tEnd (bs.flatMap Block.shape) 0 times hl hend h0
  rw [← h5]
  exact sentence_run ch τ tEnd c hto bs hne hb _ h1 (chainTail_of_chainFrom h2) h3 h4

/-! ### the one-block sentence a (N)RPN message is encoded as (C09's `specPNEncoding`) -/

/-- the value unit a message is encoded as -/
def unitOf (m : PNMsg) (order : ByteOrder) : VUnit :=
  match m.dataType with
  | .dataEntry =>
    if m.is14Bit then
      match order with
      | .msbFirst => .msbLsb (m.value / 128) (m.value % 128)
      | .lsbFirst => .lsbMsb (m.value % 128) (m.value / 128)
    else .msbAlone m.value
  | .dataIncrement => .incDec true m.value
  | .dataDecrement => .incDec false m.value

/-- the one-block sentence a message is encoded as: number MSB first, then the value unit -/
def blockOf (m : PNMsg) (order : ByteOrder) : Block := ⟨m.isRegistered, true, m.number, [unitOf m order]⟩

theorem blockOf_shape (m : PNMsg) (order : ByteOrder) :
    ((specPNEncoding m order).filterMap id).map (fun b => (b.d1, b.d2)) =
      (blockOf m order).shape.map (fun x => (x.1, x.2.1)) := by
  obtain ⟨ch, number, value, reg, is14, dt⟩ := m
  cases dt <;> cases is14 <;> cases order <;> rfl

theorem blockOf_valid (m : PNMsg) (hm : m.Valid) (order : ByteOrder) : (blockOf m order).Valid := by
  obtain ⟨ch, number, value, reg, is14, dt⟩ := m
  obtain ⟨_, hn, hv⟩ := hm
  refine ⟨hn, ?_⟩
  cases is14
  · cases dt <;> simpa [blockOf, unitOf, unitsOk, VUnit.Valid] using hv
  · obtain ⟨hv, rfl⟩ : value < 16384 ∧ dt = .dataEntry := by simpa using hv
    cases order <;> simp [blockOf, unitOf, unitsOk, VUnit.Valid] <;> omega

theorem blockOf_intended (m : PNMsg) (hm : m.Valid) (order : ByteOrder) : (blockOf m order).intended m.channel = [m] := by
  obtain ⟨ch, number, value, reg, is14, dt⟩ := m
  obtain ⟨_, _, hv⟩ := hm
  cases is14
  · cases dt <;> rfl
  · obtain ⟨hv, rfl⟩ : value < 16384 ∧ dt = .dataEntry := by simpa using hv
    cases order <;> simp [blockOf, unitOf, Block.intended, intendedUnits] <;> omega

end Midi.Sent
