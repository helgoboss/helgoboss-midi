/-
The polling scanner.  One Control Change through a channel's state machine (`PState.onCC`) is read through views, so
that no user unfolds the 9-way match on the controller number: `onCC_cases` (prove it of the four `process*` functions
and of "nothing happens"), `onCC_cases₂` (two calls with the same controller number, related function by function),
`onCC_other` / `onCC_number` / `onCC_incDec` (the equations, for a caller that knows the controller); a poll through
`PChan.poll_cases` (its two halves as equations: `poll_quiet`, `poll_late`).  Proved through them once: stored bytes
stay 7-bit values, every reported message is valid and carries the channel.  Then the 16-channel scanner: a valid feed
is one `onCC` step of one channel or nothing (`feed_cc`, `feed_not_cc`), and a whole history is, seen from each
channel, that channel's sub-scanner run alone on the channel's own events (`p_run_channels`).
-/
import Midi.Model.Polling
import Midi.Spec.PollRuns
import Midi.Proofs.Route
import Midi.Proofs.Bits
namespace Midi
open Midi.Spec

/-- all bytes stored in a per-channel state of the polling scanner are 7-bit values -/
def PState.Bytes7 : PState → Prop
  | .waitingForNumber first _ _ => ∀ v, first = some v → v < 128
  | .waitingForFirstValue ns => ns.msb < 128 ∧ ns.lsb < 128
  | .valuePending ns _ first _ => ns.msb < 128 ∧ ns.lsb < 128 ∧ first < 128
  | .fourteenComplete ns a b => ns.msb < 128 ∧ ns.lsb < 128 ∧ a < 128 ∧ b < 128

theorem PState.default_bytes7 : PState.default.Bytes7 := fun _ h => nomatch h

theorem PState.onCC_other (st : PState) (now ch cn cv : Nat) (h : ¬ (cn = 6 ∨ cn = 38 ∨ (96 ≤ cn ∧ cn ≤ 101))) :
    st.onCC now ch cn cv = (st, (none, none)) := by
  unfold PState.onCC
  -- the eight arms with a literal controller number contradict `h`; the last arm is the claim
  split <;> first | omega | rfl

/-- `(if reg then 100 else 98) + (if msb then 1 else 0)` runs through 98 .. 101 -/
theorem PState.onCC_number (st : PState) (now ch cv : Nat) (reg msb : Bool) :
    st.onCC now ch ((if reg then 100 else 98) + (if msb then 1 else 0)) cv =
      ((st.processNumberByte cv reg msb ch).1, ((st.processNumberByte cv reg msb ch).2, none)) := by
  cases reg <;> cases msb <;> rfl

theorem PState.onCC_incDec (st : PState) (now ch cv : Nat) (inc : Bool) :
    st.onCC now ch (if inc then 96 else 97) cv =
      st.processValueIncDec ch (if inc then .dataIncrement else .dataDecrement) cv := by
  cases inc <;> rfl

/-- `onCC` by what the controller number is to the scanner: a number byte (98-101), the data entry LSB (38) or MSB (6),
    an increment or decrement (96, 97), or nothing.  Two calls with the same controller number (from any two states, at
    any two times, with any two values) go through the same `process*` function: to relate them, relate those. -/
theorem PState.onCC_cases₂ {P : PState × POut → PState × POut → Prop} (st st' : PState)
    (now now' ch ch' cn cv cv' : Nat)
    (number : ∀ reg msb : Bool, cn = (if reg then 100 else 98) + (if msb then 1 else 0) →
      P ((st.processNumberByte cv reg msb ch).1, ((st.processNumberByte cv reg msb ch).2, none))
        ((st'.processNumberByte cv' reg msb ch').1, ((st'.processNumberByte cv' reg msb ch').2, none)))
    (lsb : cn = 38 → P ((st.processValueLsb now ch cv).1, ((st.processValueLsb now ch cv).2, none))
      ((st'.processValueLsb now' ch' cv').1, ((st'.processValueLsb now' ch' cv').2, none)))
    (msb : cn = 6 → P ((st.processValueMsb now ch cv).1, ((st.processValueMsb now ch cv).2, none))
      ((st'.processValueMsb now' ch' cv').1, ((st'.processValueMsb now' ch' cv').2, none)))
    (incDec : ∀ inc : Bool, cn = (if inc then 96 else 97) →
      P (st.processValueIncDec ch (if inc then .dataIncrement else .dataDecrement) cv)
        (st'.processValueIncDec ch' (if inc then .dataIncrement else .dataDecrement) cv'))
    (other : ¬ (cn = 6 ∨ cn = 38 ∨ (96 ≤ cn ∧ cn ≤ 101)) → P (st, (none, none)) (st', (none, none))) :
    P (st.onCC now ch cn cv) (st'.onCC now' ch' cn cv') := by
  rcases cn_cases cn with (rfl | rfl | rfl | rfl | rfl | rfl | rfl | rfl) | h
  · exact number false false rfl
  · exact number false true rfl
  · exact number true false rfl
  · exact number true true rfl
  · exact lsb rfl
  · exact msb rfl
  · exact incDec true rfl
  · exact incDec false rfl
  · rw [st.onCC_other now ch cn cv h, st'.onCC_other now' ch' cn cv' h]; exact other h

/-- ... and to prove something of one call, prove it of the four `process*` functions -/
theorem PState.onCC_cases {P : PState × POut → Prop} (st : PState) (now ch cn cv : Nat)
    (number : ∀ reg msb : Bool, cn = (if reg then 100 else 98) + (if msb then 1 else 0) →
      P ((st.processNumberByte cv reg msb ch).1, ((st.processNumberByte cv reg msb ch).2, none)))
    (lsb : cn = 38 → P ((st.processValueLsb now ch cv).1, ((st.processValueLsb now ch cv).2, none)))
    (msb : cn = 6 → P ((st.processValueMsb now ch cv).1, ((st.processValueMsb now ch cv).2, none)))
    (incDec : ∀ inc : Bool, cn = (if inc then 96 else 97) →
      P (st.processValueIncDec ch (if inc then .dataIncrement else .dataDecrement) cv))
    (other : ¬ (cn = 6 ∨ cn = 38 ∨ (96 ≤ cn ∧ cn ≤ 101)) → P (st, (none, none))) :
    P (st.onCC now ch cn cv) :=
  PState.onCC_cases₂ (P := fun r _ => P r) st st now now ch ch cn cv cv number lsb msb incDec other

theorem PNMsg.sevenBit_valid (ch n v : Nat) (r : Bool) (d : DataType) :
    (PNMsg.sevenBit ch n v r d).Valid ↔ ch < 16 ∧ n < 16384 ∧ v < 128 := by
  simp [PNMsg.sevenBit, PNMsg.Valid]
theorem PNMsg.fourteenBit_valid (ch n v : Nat) (r : Bool) :
    (PNMsg.fourteenBit ch n v r).Valid ↔ ch < 16 ∧ n < 16384 ∧ v < 16384 := by
  simp [PNMsg.fourteenBit, PNMsg.Valid]
theorem build14_lt (a b : Nat) (h1 : a < 128) (h2 : b < 128) : build14 a b < 16384 := by
  rw [build14_eq _ _ h1 h2]; omega
theorem NumberState.number_lt (ns : NumberState) (h1 : ns.msb < 128) (h2 : ns.lsb < 128) : ns.number < 16384 :=
  build14_lt _ _ h1 h2

/-- every message a Control Change makes the channel's machine report carries the channel argument: in each phase the
    result is `none` or a constructor applied to `ch`, so the equation `_ = some m` decides it -/
theorem PState.onCC_channel (st : PState) (now ch cn cv : Nat) :
    (∀ m, (st.onCC now ch cn cv).2.1 = some m → m.channel = ch) ∧
    (∀ m, (st.onCC now ch cn cv).2.2 = some m → m.channel = ch) := by
  refine PState.onCC_cases st now ch cn cv
    (P := fun r => (∀ m, r.2.1 = some m → m.channel = ch) ∧ (∀ m, r.2.2 = some m → m.channel = ch)) ?_ ?_ ?_ ?_ ?_
  · intro reg msb _
    rcases st with ⟨_ | v, r, _ | _⟩ | ns | ⟨ns, arr, f, _ | _⟩ | ⟨ns, a, b⟩ <;> cases msb <;>
      exact ⟨fun m h => by cases h <;> rfl, fun m h => by cases h⟩
  · intro _
    rcases st with ⟨v, r, k⟩ | ns | ⟨ns, arr, f, _ | _⟩ | ⟨ns, a, b⟩ <;>
      exact ⟨fun m h => by cases h <;> rfl, fun m h => by cases h⟩
  · intro _
    rcases st with ⟨v, r, k⟩ | ns | ⟨ns, arr, f, _ | _⟩ | ⟨ns, a, b⟩ <;>
      exact ⟨fun m h => by cases h <;> rfl, fun m h => by cases h⟩
  · intro inc _
    rcases st with ⟨v, r, k⟩ | ns | ⟨ns, arr, f, _ | _⟩ | ⟨ns, a, b⟩ <;>
      exact ⟨fun m h => by cases h <;> rfl, fun m h => by cases h <;> rfl⟩
  · exact fun _ => ⟨fun m h => (nomatch h), fun m h => (nomatch h)⟩

/-- a Control Change with a 7-bit value keeps the stored bytes 7-bit values, and what it reports is valid: every
    message is built from the channel, the stored number bytes and stored or incoming value bytes -/
theorem PState.onCC_valid (st : PState) (hs : st.Bytes7) (now ch cn cv : Nat) (hcv : cv < 128) :
    (st.onCC now ch cn cv).1.Bytes7 ∧ (∀ m, (st.onCC now ch cn cv).2.1 = some m → ch < 16 → m.Valid) ∧
      (∀ m, (st.onCC now ch cn cv).2.2 = some m → ch < 16 → m.Valid) := by
  refine PState.onCC_cases st now ch cn cv
    (P := fun r => r.1.Bytes7 ∧ (∀ m, r.2.1 = some m → ch < 16 → m.Valid) ∧ (∀ m, r.2.2 = some m → ch < 16 → m.Valid))
    ?_ ?_ ?_ ?_ ?_
  · intro reg msb _
    rcases st with ⟨_ | v, r, _ | _⟩ | ns | ⟨ns, arr, f, _ | _⟩ | ⟨ns, a, b⟩ <;> cases msb <;>
      simp only [PState.Bytes7] at hs <;>
      simp [PState.processNumberByte, resolvePending, PState.Bytes7, PNMsg.sevenBit_valid, NumberState.number_lt, hs, hcv]
  · intro _
    rcases st with ⟨_ | v, r, k⟩ | ns | ⟨ns, arr, f, _ | _⟩ | ⟨ns, a, b⟩ <;> simp only [PState.Bytes7] at hs <;>
      simp [PState.processValueLsb, completePending, PState.Bytes7, PNMsg.fourteenBit_valid, NumberState.number_lt,
        build14_lt, hs, hcv]
  · intro _
    rcases st with ⟨_ | v, r, k⟩ | ns | ⟨ns, arr, f, _ | _⟩ | ⟨ns, a, b⟩ <;> simp only [PState.Bytes7] at hs <;>
      simp [PState.processValueMsb, completePending, PState.Bytes7, PNMsg.sevenBit_valid, PNMsg.fourteenBit_valid,
        NumberState.number_lt, build14_lt, hs, hcv]
  · intro inc _
    rcases st with ⟨_ | v, r, k⟩ | ns | ⟨ns, arr, f, _ | _⟩ | ⟨ns, a, b⟩ <;> simp only [PState.Bytes7] at hs <;>
      simp [PState.processValueIncDec, PState.Bytes7, PNMsg.sevenBit_valid, NumberState.number_lt, hs, hcv]
  · intro _; exact ⟨hs, by simp⟩

theorem onCC_bytes7 (st : PState) (hs : st.Bytes7) (now ch cn cv : Nat) (hcv : cv < 128) :
    (st.onCC now ch cn cv).1.Bytes7 :=
  (st.onCC_valid hs now ch cn cv hcv).1

/-- a poll changes and reports nothing unless a byte has been pending for the timeout or longer ... -/
theorem PChan.poll_quiet (c : PChan) (now ch : Nat)
    (h : ∀ ns arr f k, c.state = .valuePending ns arr f k → now - arr < c.timeout) : c.poll now ch = (c, none) := by
  unfold PChan.poll
  split
  · exact if_pos (h _ _ _ _ ‹_›)
  · rfl

theorem PChan.poll_early (c : PChan) (now ch : Nat) {ns : NumberState} {arr f : Nat} {k : Bool}
    (hs : c.state = .valuePending ns arr f k) (h : now - arr < c.timeout) : c.poll now ch = (c, none) :=
  c.poll_quiet now ch fun _ _ _ _ hs' => by rw [hs] at hs'; cases hs'; exact h

/-- ... and then resolves it: a data entry MSB is reported as 7-bit value, an LSB dropped -/
theorem PChan.poll_late (c : PChan) (now ch : Nat) {ns : NumberState} {arr f : Nat} {k : Bool}
    (hs : c.state = .valuePending ns arr f k) (h : c.timeout ≤ now - arr) :
    c.poll now ch = ({ c with state := .waitingForFirstValue ns }, resolvePending ch ns f k) := by
  unfold PChan.poll
  rw [hs]
  exact if_neg (by omega)

/-- the two as a case distinction, for a caller that does not know the state -/
theorem PChan.poll_cases (c : PChan) (now ch : Nat) :
    (c.poll now ch = (c, none) ∧ ∀ ns arr f k, c.state = .valuePending ns arr f k → now - arr < c.timeout) ∨
    ∃ ns arr f k, c.state = .valuePending ns arr f k ∧ c.timeout ≤ now - arr ∧
      c.poll now ch = ({ c with state := .waitingForFirstValue ns }, resolvePending ch ns f k) := by
  cases hst : c.state with
  | valuePending ns arr f k =>
    by_cases hlt : now - arr < c.timeout
    · exact .inl ⟨c.poll_early now ch hst hlt, fun _ _ _ _ h => by cases h; exact hlt⟩
    · exact .inr ⟨ns, arr, f, k, rfl, Nat.le_of_not_lt hlt, c.poll_late now ch hst (Nat.le_of_not_lt hlt)⟩
  | _ => exact .inl ⟨c.poll_quiet now ch fun _ _ _ _ h => (by rw [hst] at h; cases h), fun _ _ _ _ h => nomatch h⟩

theorem resolvePending_eq_some {ch : Nat} {ns : NumberState} {f : Nat} {k : Bool} {m : PNMsg}
    (h : resolvePending ch ns f k = some m) : k = true ∧ m = .sevenBit ch ns.number f ns.isRegistered .dataEntry := by
  cases k with
  | false => cases h
  | true => exact ⟨rfl, (Option.some.inj h).symm⟩

theorem PChan.poll_channel (c : PChan) (now ch : Nat) (m : PNMsg) (h : (c.poll now ch).2 = some m) : m.channel = ch := by
  rcases c.poll_cases now ch with ⟨e, _⟩ | ⟨ns, arr, f, k, _, _, e⟩ <;> rw [e] at h
  · cases h
  · rw [(resolvePending_eq_some h).2]; rfl

theorem PChan.poll_valid (c : PChan) (hs : c.state.Bytes7) (now ch : Nat) :
    (c.poll now ch).1.state.Bytes7 ∧ ∀ m, (c.poll now ch).2 = some m → ch < 16 → m.Valid := by
  rcases c.poll_cases now ch with ⟨e, _⟩ | ⟨ns, arr, f, k, hst, _, e⟩ <;> rw [e]
  · exact ⟨hs, fun m h => nomatch h⟩
  · rw [hst] at hs
    refine ⟨⟨hs.1, hs.2.1⟩, fun m h hc => ?_⟩
    rw [(resolvePending_eq_some h).2, PNMsg.sevenBit_valid]
    exact ⟨hc, ns.number_lt hs.1 hs.2.1, hs.2.2⟩

/-- feeding a valid message: a Control Change on channel `c` is one step of `s[c]`'s state machine, anything else
    (other channel messages, system messages) changes and reports nothing -/
theorem PScanner.feed_cc (now : Nat) (s : PScanner) (b : Bytes) (hv : b.Valid) (c : Nat) (hc : c < 16)
    (hb : b.status = 176 + c) :
    s.feed rawImpl now b =
      .ok (s.set c { s[c] with state := (s[c].state.onCC now c b.d1 b.d2).1 }, (s[c].state.onCC now c b.d1 b.d2).2) := by
  have e : b.status - 176 = c := by omega
  subst e
  simp only [PScanner.feed_eq, PChan.feed_eq]
  rw [routeFeed_valid (none, none) _ s b hv, dif_pos (by omega)]
  rfl

theorem PScanner.feed_not_cc (now : Nat) (s : PScanner) (b : Bytes) (hv : b.Valid)
    (h : ¬ (176 ≤ b.status ∧ b.status < 192)) : s.feed rawImpl now b = .ok (s, (none, none)) := by
  simp only [PScanner.feed_eq, PChan.feed_eq]
  rw [routeFeed_valid (none, none) _ s b hv, dif_neg h]

/-- one operation, seen from each channel `c`: it either is an event of that channel (and the scanner does exactly what
    the channel's sub-scanner does, returning its result) or leaves that channel untouched; never panics -/
theorem p_step_channels (now : Nat) (s : PScanner) (op : TOp) (hv : op.Valid) :
    ∃ s' o, pStep now s op = .ok ((nextNow now op, s'), o) ∧ ∀ c (hc : c < 16),
      (match projectOp c now op with
       | some e => s'[c] = (s[c].ev c e).1 ∧ o = (s[c].ev c e).2
       | none => s'[c] = s[c]) := by
  cases op with
  | feed b =>
    by_cases h : 176 ≤ b.status ∧ b.status < 192
    · obtain ⟨c0, hc0, hb⟩ : ∃ c0, c0 < 16 ∧ b.status = 176 + c0 := ⟨b.status - 176, by omega⟩
      have hf := PScanner.feed_cc now s b hv c0 hc0 hb
      refine ⟨_, _, by simp only [pStep, hf, bind, Except.bind]; rfl, fun c hc => ?_⟩
      by_cases hcc : c0 = c
      · subst hcc
        simp [projectOp, hb, Vector.getElem_set_self, PChan.ev]
      · have : ¬ b.status = 176 + c := by omega
        simp only [projectOp, this, if_false]
        rw [Vector.getElem_set_ne _ _ hcc]
    · have hf := PScanner.feed_not_cc now s b hv h
      refine ⟨_, _, by simp only [pStep, hf, bind, Except.bind]; rfl, fun c hc => ?_⟩
      have hcc : ¬ b.status = 176 + c := by omega
      simp only [projectOp, hcc, if_false]
  | poll ch =>
    have hch : ch < 16 := hv
    refine ⟨_, _, by simp only [pStep, PScanner.poll, hch, dite_true, bind, Except.bind]; rfl, fun c hc => ?_⟩
    by_cases he : ch = c
    · subst he
      simp [projectOp, Vector.getElem_set_self, PChan.ev]
    · simp only [projectOp, he, if_false]
      rw [Vector.getElem_set_ne _ _ (by omega)]
  | reset =>
    refine ⟨_, _, rfl, fun c hc => ?_⟩
    simp [projectOp, PScanner.reset, PChan.ev]
  | tick d =>
    exact ⟨_, _, rfl, fun c hc => by simp [projectOp]⟩

/-- Any history: the polling scanner never panics, and for every channel the final sub-scanner state and the
    outputs of the operations that concern the channel are exactly those of that channel's sub-scanner run alone
    on the channel's own events. -/
theorem p_run_channels (now : Nat) (s : PScanner) (ops : List TOp) (hv : ∀ op ∈ ops, op.Valid) :
    ∃ now' s' outs, pRun now s ops = .ok ((now', s'), outs) ∧ outs.length = ops.length ∧ ∀ c (hc : c < 16),
      s'[c] = (s[c].evs c (project c now ops)).1 ∧
      outputsOn c now ops outs = (s[c].evs c (project c now ops)).2 := by
  induction ops generalizing now s with
  | nil => exact ⟨now, s, [], rfl, rfl, fun c hc => ⟨rfl, rfl⟩⟩
  | cons op ops ih =>
    obtain ⟨s1, o, h1, hp⟩ := p_step_channels now s op (hv op (List.mem_cons_self))
    obtain ⟨now2, s2, outs, h2, hl, hso⟩ := ih (nextNow now op) s1
      (fun o ho => hv o (List.mem_cons_of_mem _ ho))
    refine ⟨now2, s2, o :: outs, by simp [pRun, h1, h2, bind, Except.bind], by simp [hl], fun c hc => ?_⟩
    obtain ⟨hs, ho⟩ := hso c hc
    have hp := hp c hc
    simp only [project, outputsOn]
    cases hpo : projectOp c now op with
    | none => simp only [hpo] at hp; rw [hs, ho, hp]; exact ⟨rfl, rfl⟩
    | some e => simp only [hpo] at hp; rw [hs, ho, hp.1, hp.2]; exact ⟨rfl, rfl⟩

theorem p_run_channel (c : Nat) (hc : c < 16) (now : Nat) (s : PScanner) (ops : List TOp) (hv : ∀ op ∈ ops, op.Valid) :
    ∃ now' s' outs, pRun now s ops = .ok ((now', s'), outs) ∧ outs.length = ops.length ∧
      s'[c] = (s[c].evs c (project c now ops)).1 ∧
      outputsOn c now ops outs = (s[c].evs c (project c now ops)).2 := by
  obtain ⟨now', s', outs, h, hl, hso⟩ := p_run_channels now s ops hv
  exact ⟨now', s', outs, h, hl, hso c hc⟩

theorem PScanner.getElem_new (t c : Nat) (hc : c < 16) : (PScanner.new t)[c] = { timeout := t } :=
  Vector.getElem_replicate ..

theorem p_run_new_channel (c : Nat) (hc : c < 16) (now t : Nat) (ops : List TOp) (hv : ∀ op ∈ ops, op.Valid) :
    ∃ n s outs, pRun now (PScanner.new t) ops = .ok ((n, s), outs) ∧
      s[c] = (({ timeout := t } : PChan).evs c (project c now ops)).1 ∧
      outputsOn c now ops outs = (({ timeout := t } : PChan).evs c (project c now ops)).2 := by
  obtain ⟨n, s, outs, h, _, hs, ho⟩ := p_run_channel c hc now (PScanner.new t) ops hv
  rw [PScanner.getElem_new t c hc] at hs ho
  exact ⟨n, s, outs, h, hs, ho⟩

/-- a Control Change event in a channel's view of a history is a Control Change that was fed on that channel -/
theorem project_cc_origin (c now : Nat) (ops : List TOp) (cn cv t : Nat) (h : PEv.cc cn cv t ∈ project c now ops) :
    TOp.feed ⟨176 + c, cn, cv⟩ ∈ ops := by
  induction ops generalizing now with
  | nil => cases h
  | cons op ops ih =>
    simp only [project] at h
    cases hp : projectOp c now op with
    | none => rw [hp] at h; exact List.mem_cons_of_mem _ (ih _ h)
    | some e =>
      rw [hp] at h
      rcases List.mem_cons.mp h with rfl | h
      · -- only a feed on the channel is seen as a Control Change
        rcases op with ⟨st, d1, d2⟩ | ch | _ | d <;> simp only [projectOp] at hp
        · split at hp
          · next hs => subst hs; cases hp; exact List.mem_cons_self
          · cases hp
        · split at hp <;> cases hp
        · cases hp
        · cases hp
      · exact List.mem_cons_of_mem _ (ih _ h)

/-- the value byte is a 7-bit value: all the per-channel theorems need of an event; a valid history shows a channel
    such events only -/
def _root_.Midi.Spec.PEv.Valid : PEv → Prop
  | .cc _ cv _ => cv < 128
  | _ => True

theorem projectEv_valid (c now : Nat) (ops : List TOp) (hv : ∀ op ∈ ops, op.Valid) : ∀ e ∈ project c now ops, e.Valid := by
  intro e he
  cases e with
  | cc cn cv t => exact (hv _ (project_cc_origin c now ops cn cv t he)).2.2.2
  | _ => trivial

theorem ev_timeout (ch : Nat) (c : PChan) (e : PEv) : (c.ev ch e).1.timeout = c.timeout := by
  cases e with
  | poll now => rcases c.poll_cases now ch with ⟨h, _⟩ | ⟨_, _, _, _, _, _, h⟩ <;> rw [PChan.ev, h]
  | _ => rfl

theorem evs_timeout (ch : Nat) (c : PChan) (es : List PEv) : (c.evs ch es).1.timeout = c.timeout := by
  induction es generalizing c with
  | nil => rfl
  | cons e es ih => simp only [PChan.evs]; rw [ih, ev_timeout]

end Midi
