/-
What the three scanners share: a message is routed to the sub-scanner of the channel that `channel()` reports, the
sub-scanner looks at Control Changes only, and a history is run by folding one step function over it.  For the two
pure scanners: a state described channel by channel by abstract values moves with them (`routeFeed_abs`), a step-wise
simulation carries over to runs (`runM_sim`), and a specification kept per channel is isolated per channel
(`outsOn_expected`).
-/
import Midi.Model.Polling
import Midi.Spec.PollRuns
import Midi.Spec.Runs
import Midi.Proofs.Short
namespace Midi
open Midi.Spec

/-- the body of all three `feed`s: `g` is the sub-scanner's `feed` on the message at hand, `dflt` what is returned
    for a message without a channel -/
def routeFeed {σ ω : Type} (dflt : ω) (ch? : Res (Option Nat)) (g : σ → Res (σ × ω)) (s : Vector σ 16) :
    Res (Vector σ 16 × ω) := do
  match ← ch? with
  | none => .ok (s, dflt)
  | some ch =>
    if h : ch < 16 then do
      let (st', out) ← g s[ch]
      .ok (s.set ch st', out)
    else .error .indexOutOfBounds

/-- the body of all three `ScannerForOneChannel::feed`s: only a Control Change is looked at -/
def onControlChange {β : Type} (m : Res SMsg) (k : Nat → Nat → Nat → Res β) (other : Res β) : Res β := do
  match ← m with
  | .controlChange channel cn cv => k channel cn cv
  | _ => other

/-- the controller numbers the two (N)RPN sub-scanners react to, in the order of the arms of their `match`, or none of
    them (the hypothesis of `pn_onCC_other`, `PState.onCC_other`) -/
theorem cn_cases (cn : Nat) :
    (cn = 98 ∨ cn = 99 ∨ cn = 100 ∨ cn = 101 ∨ cn = 38 ∨ cn = 6 ∨ cn = 96 ∨ cn = 97) ∨
      ¬ (cn = 6 ∨ cn = 38 ∨ (96 ≤ cn ∧ cn ≤ 101)) := by omega

theorem CCScanner.feed_eq {α} (I : Impl α) (s : CCScanner) (x : α) :
    s.feed I x = routeFeed none (channel I x) (·.feed I x) s := rfl
theorem PNScanner.feed_eq {α} (I : Impl α) (s : PNScanner) (x : α) :
    s.feed I x = routeFeed none (channel I x) (·.feed I x) s := rfl
theorem PScanner.feed_eq {α} (I : Impl α) (now : Nat) (s : PScanner) (x : α) :
    s.feed I now x = routeFeed (none, none) (channel I x) (·.feed I now x) s := rfl

/-- what the 14-bit CC sub-scanner does with a Control Change: the `ControlChange` arm of its
    `ScannerForOneChannel::feed` (for the two other sub-scanners the model has that arm as a function already:
    `PNChan.onCC`, `PState.onCC`) -/
def CCChan.onCC (st : CCChan) (channel cn cv : Nat) : Res (CCChan × Option CC14Msg) :=
  if cn ≤ 31 then .ok ({ msbCn := some cn, valueMsb := some cv }, none)
  else if cn ≤ 63 then st.processValueLsb channel cn cv
  else .ok (st, none)

theorem CCChan.feed_eq {α} (I : Impl α) (st : CCChan) (x : α) :
    st.feed I x = onControlChange (toStructured I x) st.onCC (.ok (st, none)) := rfl
theorem PNChan.feed_eq {α} (I : Impl α) (st : PNChan) (x : α) :
    st.feed I x = onControlChange (toStructured I x) st.onCC (.ok (st, none)) := rfl
theorem PChan.feed_eq {α} (I : Impl α) (now : Nat) (c : PChan) (x : α) :
    c.feed I now x = onControlChange (toStructured I x)
      (fun channel cn cv => .ok ({ c with state := (c.state.onCC now channel cn cv).1 }, (c.state.onCC now channel cn cv).2))
      (.ok (c, (none, none))) := rfl

/-- A valid message fed to a scanner whose sub-scanners look at Control Changes only: a Control Change on channel `c`
    is handled by `s[c]` alone, anything else leaves the scanner as it is. -/
theorem routeFeed_valid {σ ω : Type} (dflt : ω) (k : σ → Nat → Nat → Nat → Res (σ × ω)) (s : Vector σ 16)
    (b : Bytes) (hv : b.Valid) :
    routeFeed dflt (channel rawImpl b) (fun st => onControlChange (toStructured rawImpl b) (k st) (.ok (st, dflt))) s =
      if h : 176 ≤ b.status ∧ b.status < 192 then
        (k (s[b.status - 176]'(by omega)) (b.status - 176) b.d1 b.d2).map
          fun r => (s.set (b.status - 176) r.1 (by omega), r.2)
      else .ok (s, dflt) := by
  rw [channel_spec rawImpl b hv, toStructured_spec rawImpl b (rawImpl_lawful b) hv]
  show routeFeed dflt (.ok (specChannel b.status)) (fun st => onControlChange (.ok (specStructured b)) (k st) _) s = _
  by_cases h : 176 ≤ b.status ∧ b.status < 192
  · have hc : b.status % 16 = b.status - 176 := by omega
    rw [dif_pos h, specStructured_cc b (by omega), hc]
    have : specChannel b.status = some (b.status - 176) := by simp [specChannel, hc]; omega
    rw [this]
    have h16 : b.status - 176 < 16 := by omega
    simp only [routeFeed, onControlChange, bind, Except.bind, h16, dite_true]
    cases k s[b.status - 176] (b.status - 176) b.d1 b.d2 <;> rfl
  · rw [dif_neg h]
    have ho : ∀ st : σ, onControlChange (.ok (specStructured b)) (k st) (.ok (st, dflt)) = .ok (st, dflt) := by
      intro st
      simp only [onControlChange, bind, Except.bind]
      split
      · exact absurd ‹_› (specStructured_not_cc b hv (by omega) _ _ _)
      · rfl
    simp only [ho, routeFeed, specChannel, bind, Except.bind]
    by_cases hlt : b.status < 240
    · have h16 : b.status % 16 < 16 := Nat.mod_lt _ (by decide)
      simp [hlt, h16]
    · simp [hlt]

theorem routeFeed_inert {σ ω : Type} (dflt : ω) (k : σ → Nat → Nat → Nat → Res (σ × ω)) (s : Vector σ 16)
    (b : Bytes) (hv : b.Valid)
    (hk : 176 ≤ b.status ∧ b.status < 192 → ∀ st, k st (b.status - 176) b.d1 b.d2 = .ok (st, dflt)) :
    routeFeed dflt (channel rawImpl b) (fun st => onControlChange (toStructured rawImpl b) (k st) (.ok (st, dflt))) s =
      .ok (s, dflt) := by
  rw [routeFeed_valid dflt k s b hv]
  split
  · rw [hk ‹_›]; simp only [Except.map, Vector.set_getElem_self]
  · rfl

/-- a history run: one step function folded over the operations, results collected (`ccRun`, `pnRun`, `pRun`) -/
def runM {σ ι ω : Type} (step : σ → ι → Res (σ × ω)) : σ → List ι → Res (σ × List ω)
  | s, [] => .ok (s, [])
  | s, op :: ops => do
    let (s', o) ← step s op
    let (s'', os) ← runM step s' ops
    .ok (s'', o :: os)

theorem ccRun_eq (s : CCScanner) (ops : List Op) : ccRun s ops = runM ccStep s ops := by
  induction ops generalizing s with
  | nil => rfl
  | cons op ops ih => simp only [ccRun, runM, ih]
theorem pnRun_eq (s : PNScanner) (ops : List Op) : pnRun s ops = runM pnStep s ops := by
  induction ops generalizing s with
  | nil => rfl
  | cons op ops ih => simp only [pnRun, runM, ih]
theorem pRun_eq (now : Nat) (s : PScanner) (ops : List TOp) :
    pRun now s ops = runM (fun ns => pStep ns.1 ns.2) (now, s) ops := by
  induction ops generalizing now s with
  | nil => rfl
  | cons op ops ih => simp only [pRun, runM, ih]

section
variable {σ ι ω : Type} (step : σ → ι → Res (σ × ω))

theorem runM_append (s : σ) (a b : List ι) :
    runM step s (a ++ b) = (do let (s1, o1) ← runM step s a; let (s2, o2) ← runM step s1 b; .ok (s2, o1 ++ o2)) := by
  induction a generalizing s with
  | nil => simp only [List.nil_append, runM, bind, Except.bind]; cases runM step s b <;> rfl
  | cons x xs ih =>
    simp only [List.cons_append, runM, bind, Except.bind]
    cases step s x with
    | error e => rfl
    | ok r =>
      simp only [ih r.1, bind, Except.bind]
      cases runM step r.1 xs with
      | error e => rfl
      | ok r2 => simp only; cases runM step r2.1 b <;> rfl

theorem runM_insert (s : σ) (a b : List ι) (x : ι) (o : ω) (h : ∀ s, step s x = .ok (s, o)) :
    runM step s (a ++ x :: b) =
      (do let (s1, o1) ← runM step s a; let (s2, o2) ← runM step s1 b; .ok (s2, o1 ++ o :: o2)) := by
  rw [runM_append]
  cases runM step s a with
  | error e => rfl
  | ok r => simp only [bind, Except.bind, runM, h]; cases runM step r.1 b <;> rfl
end

/-- `s[c]` represents the abstract value `f c`, of which `P` holds, on every channel `c` (`CCAbsRel`, `PNAbsRel` are
    this with `repr` and `P` written out) -/
def Described {σ κ : Type} (repr : κ → σ) (P : κ → Prop) (s : Vector σ 16) (f : Nat → κ) : Prop :=
  ∀ c (h : c < 16), s[c] = repr (f c) ∧ P (f c)

/-- One valid message fed to a described scanner.  If on abstract values the sub-scanner's reaction to a Control Change
    of its own channel is `next` / `out` (`hk`), `next c` ignores what is not a Control Change on `c` and `out` is
    `dflt` on what is no Control Change at all, then the scanner reports `out` of the message's own channel and is
    described by the abstraction moved by `next` on every channel.  (`next` takes an `Op`, not `Bytes`, so that it can
    be the step of a history function, which also handles reset.) -/
theorem routeFeed_abs {σ ω κ : Type} (repr : κ → σ) (P : κ → Prop) (dflt : ω)
    (k : σ → Nat → Nat → Nat → Res (σ × ω)) (next : Nat → κ → Op → κ) (out : κ → Bytes → ω)
    (hk : ∀ a b, P a → b.Valid → 176 ≤ b.status → b.status < 192 →
      k (repr a) (b.status - 176) b.d1 b.d2 = .ok (repr (next (b.status - 176) a (.feed b)), out a b) ∧
        P (next (b.status - 176) a (.feed b)))
    (hnext : ∀ c a b, b.status ≠ 176 + c → next c a (.feed b) = a)
    (hout : ∀ a b, ¬ (176 ≤ b.status ∧ b.status < 192) → out a b = dflt)
    (s : Vector σ 16) (f : Nat → κ) (hr : Described repr P s f) (b : Bytes) (hv : b.Valid) :
    ∃ s', routeFeed dflt (channel rawImpl b)
        (fun st => onControlChange (toStructured rawImpl b) (k st) (.ok (st, dflt))) s =
          .ok (s', out (f (b.status - 176)) b) ∧
      Described repr P s' (fun c => next c (f c) (.feed b)) := by
  rw [routeFeed_valid dflt k s b hv]
  split
  · next h =>
    obtain ⟨hs, hp⟩ := hr (b.status - 176) (by omega)
    obtain ⟨e, hp'⟩ := hk _ b hp hv h.1 h.2
    rw [hs, e]
    refine ⟨_, rfl, fun c hc => ?_⟩
    show (s.set _ _ _)[c] = repr (next c (f c) (.feed b)) ∧ P (next c (f c) (.feed b))
    by_cases hc' : b.status - 176 = c
    · subst hc'; exact ⟨Vector.getElem_set_self .., hp'⟩
    · rw [Vector.getElem_set_ne _ _ hc', hnext c _ b (by omega)]; exact hr c hc
  · next h =>
    rw [hout _ b h]
    refine ⟨s, rfl, fun c hc => ?_⟩
    show s[c] = repr (next c (f c) (.feed b)) ∧ P (next c (f c) (.feed b))
    rw [hnext c _ b (by omega)]; exact hr c hc

/-- the outputs `out a x` along a list while the abstract state `a` moves by `next` -/
def traceOuts {α ι ω : Type} (next : α → ι → α) (out : α → ι → ω) : α → List ι → List ω
  | _, [] => []
  | a, x :: xs => out a x :: traceOuts next out (next a x) xs

theorem runM_sim {σ ι ω α : Type} (step : σ → ι → Res (σ × ω)) (R : σ → α → Prop) (next : α → ι → α)
    (out : α → ι → ω) (ok : ι → Prop)
    (h : ∀ s a, R s a → ∀ x, ok x → ∃ s', step s x = .ok (s', out a x) ∧ R s' (next a x))
    (s : σ) (a : α) (hr : R s a) (xs : List ι) (hx : ∀ x ∈ xs, ok x) :
    ∃ s', runM step s xs = .ok (s', traceOuts next out a xs) ∧ R s' (xs.foldl next a) := by
  induction xs generalizing s a with
  | nil => exact ⟨s, rfl, hr⟩
  | cons x xs ih =>
    obtain ⟨s1, h1, r1⟩ := h s a hr x (hx x List.mem_cons_self)
    obtain ⟨s2, h2, r2⟩ := ih s1 _ r1 fun y hy => hx y (List.mem_cons_of_mem _ hy)
    exact ⟨s2, by simp only [runM, h1, h2, bind, Except.bind, traceOuts], r2⟩

theorem foldl_snoc {ι : Type} (pre xs : List ι) : xs.foldl (fun p x => p ++ [x]) pre = pre ++ xs := by
  induction xs generalizing pre with
  | nil => simp
  | cons x xs ih => simp [ih]

/-- what a specification demands for one operation, when the history is summarised per channel by `abs` and a
    message is judged by `just` against the summary of its own channel (`b.status - 176` means nothing for a message
    that is no Control Change; `hjust` below makes it irrelevant) -/
def expectOf {κ ω : Type} (dflt : ω) (just : κ → Bytes → ω) (abs : Nat → κ) : Op → ω
  | .feed b => just (abs (b.status - 176)) b
  | .reset => dflt

theorem off_channel {c : Nat} (hc : c < 16) {b : Bytes} (h : opOnChannel c (.feed b) = false) :
    b.status ≠ 176 + c := by
  intro he
  have h1 : b.status < 240 := by omega
  have h2 : b.status % 16 = c := by omega
  simp [opOnChannel, h1, h2] at h

section
variable {κ ω : Type} {dflt : ω} {abs : List Op → Nat → κ} {next : Nat → κ → Op → κ} {just : κ → Bytes → ω}
  (habs : ∀ pre op c, abs (pre ++ [op]) c = next c (abs pre c) op)
  (hnext : ∀ c a b, b.status ≠ 176 + c → next c a (.feed b) = a)
  (hjust : ∀ a b, ¬ (176 ≤ b.status ∧ b.status < 192) → just a b = dflt)
include habs hnext hjust

/-- Isolation: if every channel's summary ignores the other channels' messages and a message that is no Control
    Change demands nothing, then what is demanded of the operations concerning channel `c` is what is demanded of them
    when they are alone. -/
theorem outsOn_expected (c : Nat) (hc : c < 16) (ops pre pre' : List Op) (h : abs pre c = abs pre' c) :
    outsOn c ops (traceOuts (fun p x => p ++ [x]) (fun p => expectOf dflt just (abs p)) pre ops) =
      traceOuts (fun p x => p ++ [x]) (fun p => expectOf dflt just (abs p)) pre' (ops.filter (opOnChannel c)) := by
  induction ops generalizing pre pre' with
  | nil => rfl
  | cons op ops ih =>
    by_cases hon : opOnChannel c op = true
    · simp only [traceOuts, outsOn, hon, if_true, List.filter]
      rw [ih (pre ++ [op]) (pre' ++ [op]) (by rw [habs, habs, h])]
      cases op with
      | reset => rfl
      | feed b =>
        by_cases hcc : 176 ≤ b.status ∧ b.status < 192
        · have e : b.status - 176 = c := by simp [opOnChannel] at hon; omega
          simp only [expectOf, e, h]
        · simp only [expectOf, hjust _ b hcc]
    · have hoff : opOnChannel c op = false := by simpa using hon
      simp only [traceOuts, outsOn, hoff, List.filter]
      refine ih (pre ++ [op]) pre' ?_
      cases op with
      | reset => cases hoff
      | feed b => rw [habs, hnext c _ b (off_channel hc hoff), h]
end

theorem foldl_filter_onChannel {κ : Type} (c : Nat) (next : κ → Op → κ)
    (hign : ∀ a op, opOnChannel c op = false → next a op = a) (ops : List Op) (a : κ) :
    (ops.filter (opOnChannel c)).foldl next a = ops.foldl next a := by
  induction ops generalizing a with
  | nil => rfl
  | cons op ops ih =>
    by_cases h : opOnChannel c op = true
    · simp only [List.filter, h, List.foldl_cons, ih]
    · have h' : opOnChannel c op = false := by simpa using h
      simp only [List.filter, h', List.foldl_cons, ih, hign a op h']
end Midi
