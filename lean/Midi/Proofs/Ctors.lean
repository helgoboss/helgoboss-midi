/- Constructors and encoders: each builds its messages by handing explicit bytes to the factory; the `test_util`
   shorthands. -/
import Midi.Proofs.Short
import Midi.Model.Ctors
import Midi.Model.TestUtil
import Midi.Spec.Constructors
import Midi.Spec.History
namespace Midi
open Midi.Spec

/-- each named constructor hands the factory the bytes of the structured message whose fields are its arguments -/
theorem modelNamed_eq {α} (F : Factory α) (k : Ctor) (a b c : Nat) (h : k.ArgsValid a b c) :
    modelNamed F k a b c = F.ofBytesUnchecked (bytesOf structuredImpl (specNamedStructured k a b c)) := by
  have high : ∀ v, v < 16384 → (v >>> 7) % 256 = extractHigh7 v := by
    intro v hv; rw [extractHigh7_eq, shr_7]; omega
  cases k <;> simp only [Ctor.ArgsValid] at h
  case pitchBendChange => exact congrArg (fun d => F.ofBytesUnchecked ⟨_, _, d⟩) (high b h.2.1)
  case songPositionPointer => exact congrArg (fun d => F.ofBytesUnchecked ⟨_, _, d⟩) (high a h.1)
  all_goals rfl

theorem ofCode_spec (a b c : Nat) (h : Ctor.timeCodeQuarterFrame.ArgsValid a b c) :
    (QFrame.ofCode a b c).Valid ∧ (QFrame.ofCode a b c).toU7 = if a < 7 then a * 16 + b else 112 + c * 2 + b := by
  have fin : ∀ a : Fin 8, ∀ b : Fin 16, ∀ c : Fin 4, (a.val < 7 ∨ b.val < 2) →
      (QFrame.ofCode a.val b.val c.val).Valid ∧
      (QFrame.ofCode a.val b.val c.val).toU7 = if a.val < 7 then a.val * 16 + b.val else 112 + c.val * 2 + b.val := by
    decide +kernel
  rcases h with ⟨h1, h2, rfl⟩ | ⟨rfl, h2, h3⟩
  · exact fin ⟨a, by omega⟩ ⟨b, h2⟩ 0 (.inl h1)
  · exact fin 7 ⟨b, by omega⟩ ⟨c, h3⟩ (.inr h2)

theorem specNamedStructured_valid (k : Ctor) (a b c : Nat) (h : k.ArgsValid a b c) :
    (specNamedStructured k a b c).Valid := by
  cases k
  case timeCodeQuarterFrame => exact (ofCode_spec a b c h).1
  all_goals simp only [Ctor.ArgsValid] at h <;> simp only [specNamedStructured, SMsg.Valid] <;> omega

/-- the bytes the property describes are the bytes of that structured message -/
theorem specNamed_eq (k : Ctor) (a b c : Nat) (h : k.ArgsValid a b c) :
    specNamed k a b c = bytesOf structuredImpl (specNamedStructured k a b c) := by
  cases k
  case timeCodeQuarterFrame => exact congrArg (fun d => (⟨_, d, _⟩ : Bytes)) (ofCode_spec a b c h).2.symm
  case noteOff | noteOn | polyphonicKeyPressure | controlChange | programChange | channelPressure | pitchBendChange =>
    simp only [Ctor.ArgsValid] at h
    show _ = (⟨buildStatusByte _ a, _, _⟩ : Bytes)
    rw [(buildStatusByte_toU8 _ a h.1 (by decide)).1]
    simp only [specNamed, specNamedStructured, structuredImpl, SMsg.dataByte1, SMsg.dataByte2, extractLow7_eq,
      extractHigh7_eq]
    congr 1 <;> omega
  case songPositionPointer =>
    simp only [Ctor.ArgsValid] at h
    simp only [specNamed, specNamedStructured, bytesOf, structuredImpl, SMsg.dataByte1, SMsg.dataByte2, extractLow7_eq,
      extractHigh7_eq]
    congr 1; omega
  all_goals rfl

/-- `ShortMessageType::super_type`, which the generic constructors assert on, is the category of the type byte -/
theorem superType_iff_specCategory (t : MsgType) :
    (t.superType = .channel ↔ specCategory t.toU8 = 0) ∧ (t.superType = .systemCommon ↔ specCategory t.toU8 = 1) ∧
    (t.superType = .systemRealTime ↔ specCategory t.toU8 = 2) ∧
    (t.superType = .systemExclusive ↔ specCategory t.toU8 = 3) := by
  cases t <;> decide

theorem specCategory_eq_zero (n : Nat) : specCategory n = 0 ↔ n < 240 := by
  unfold specCategory; (repeat' split) <;> omega

theorem mkControlChange_eq {α} (F : Factory α) (ch cn cv : Nat) (hc : ch < 16) :
    mkControlChange F ch cn cv = F.ofBytesUnchecked ⟨176 + ch, cn, cv⟩ := by
  unfold mkControlChange
  rw [(buildStatusByte_toU8 .controlChange ch hc (by decide)).1]; rfl

theorem cc_valid (c n v : Nat) (hc : c < 16) (hn : n < 128) (hv : v < 128) : (⟨176 + c, n, v⟩ : Bytes).Valid :=
  ⟨by show 128 ≤ 176 + c; omega, by show 176 + c < 256; omega, hn, hv⟩

theorem structured_ofBytes_cc (b : Bytes) (hv : b.Valid) (c : Nat) (hc : c < 16) (hs : b.status = 176 + c) :
    SMsg.ofBytesUnchecked b = .ok (.controlChange c b.d1 b.d2) := by
  have hch : b.status % 16 = c := by omega
  rw [structured_ofBytes b hv, specStructured_cc b (by omega), hch]

/-- the `+ 32` is evaluated only for n < 32, so its overflow check never fires: for every n, not only a `u8` -/
theorem cnLsbOf_eq (n : Nat) : cnLsbOf n = .ok (if n < 32 then some (n + 32) else none) := by
  unfold cnLsbOf
  by_cases h : n < 32
  · rw [if_neg (by omega), if_neg (by omega), if_pos h]
  · rw [if_pos (by omega), if_neg h]

theorem CC14Msg.new_eq (ch n v : Nat) :
    CC14Msg.new ch n v = if n < 32 then .ok ⟨ch, n, v⟩ else .error .cc14MsbAssert := by
  unfold CC14Msg.new
  rw [cnLsbOf_eq]
  split <;> rfl

theorem CC14Msg.lsb_eq (m : CC14Msg) (h : m.msb < 32) : m.lsb = .ok (m.msb + 32) := by
  unfold CC14Msg.lsb; rw [cnLsbOf_eq, if_pos h]; rfl

/-- the 14-bit CC encoder hands the factory the two Control Changes of `specCC14Encoding`, in order: for any factory
    that accepts them (`g` names what it returns) -/
theorem CC14Msg.toShortMessages_ok {α} (F : Factory α) (g : Bytes → α) (m : CC14Msg) (hm : m.Valid)
    (hF : ∀ b ∈ specCC14Encoding m, F.ofBytesUnchecked b = .ok (g b)) :
    m.toShortMessages F = .ok ((specCC14Encoding m).map g) := by
  obtain ⟨hc, hn, hv⟩ := hm
  have hv1 : m.value / 128 % 128 = m.value / 128 := by omega
  simp only [specCC14Encoding, List.mem_cons, List.not_mem_nil, or_false, forall_eq_or_imp, forall_eq] at hF
  simp only [CC14Msg.toShortMessages, mkControlChange_eq F _ _ _ hc, CC14Msg.lsb_eq m hn, extractHigh7_eq,
    extractLow7_eq, hv1, hF, bind, Except.bind, specCC14Encoding, List.map]

theorem specCC14Encoding_cc (m : CC14Msg) (hm : m.Valid) :
    ∀ b ∈ specCC14Encoding m, b.Valid ∧ b.status = 176 + m.channel := by
  obtain ⟨hc, hn, hv⟩ := hm
  simp only [specCC14Encoding, List.mem_cons, List.not_mem_nil, or_false, forall_eq_or_imp, forall_eq, Bytes.Valid,
    and_true]
  omega

/-- the (N)RPN encoder fills the four slots with the Control Changes of `specPNEncoding`, in order: for any factory
    that accepts them; the slot index never leaves the array -/
theorem PNMsg.toShortMessages_ok {α} (F : Factory α) (g : Bytes → α) (m : PNMsg) (hm : m.Valid) (order : ByteOrder)
    (hF : ∀ b, some b ∈ specPNEncoding m order → F.ofBytesUnchecked b = .ok (g b)) :
    m.toShortMessages F order = .ok ((specPNEncoding m order).map (Option.map g)) := by
  obtain ⟨c, n, v, r, b, d⟩ := m
  obtain ⟨hc, hn, h⟩ := hm
  simp only at hc hn h
  have hn1 : n / 128 % 128 = n / 128 := by omega
  cases b
  · -- a 7-bit value passes `as u8` (data entry) and `extractLow7` (increment, decrement) unchanged
    replace h : v < 128 := h
    have hv : v % 256 = v ∧ v % 128 = v := by omega
    cases d <;> cases order <;>
      simp only [specPNEncoding, Bool.false_eq_true, ↓reduceIte, List.mem_cons, Option.some.injEq, reduceCtorEq,
        List.not_mem_nil, or_self, or_false, forall_eq_or_imp, forall_eq] at hF <;>
      simp [toShortMessages, mkControlChange_eq F _ _ _ hc, specPNEncoding, bind, Except.bind, hF, hn1, hv]
  · -- a 14-bit value is a data entry; its high byte needs no mask
    obtain ⟨hv, rfl⟩ := h
    replace hv : v / 128 % 128 = v / 128 := by omega
    cases order <;>
      simp only [specPNEncoding, ↓reduceIte, List.mem_cons, Option.some.injEq, List.not_mem_nil, or_false,
        forall_eq_or_imp, forall_eq] at hF <;>
      simp [toShortMessages, mkControlChange_eq F _ _ _ hc, specPNEncoding, bind, Except.bind, hF, hn1, hv]

theorem specPNEncoding_cc (m : PNMsg) (hm : m.Valid) (order : ByteOrder) :
    ∀ b, some b ∈ specPNEncoding m order → b.Valid ∧ b.status = 176 + m.channel := by
  obtain ⟨c, n, v, r, i, d⟩ := m
  obtain ⟨hc, hn, h⟩ := hm
  simp only at hc hn h
  have r1 : (if r then 101 else 99) < 128 := by split <;> decide
  have r2 : (if r then 100 else 98) < 128 := by split <;> decide
  -- what is left for each entry of each shape of the list is linear arithmetic
  cases i <;> cases d <;> cases order <;>
    simp only [specPNEncoding, List.mem_cons, List.not_mem_nil, Option.some.injEq, reduceCtorEq, or_false,
      forall_eq_or_imp, forall_eq, Bytes.Valid, Bool.false_eq_true, if_false, if_true, and_false, and_true] at h ⊢ <;>
    omega

theorem tuConv_bind {β : Type} (max v : Nat) (f : Nat → Res β) :
    (tuConv max v >>= f) = if v ≤ max then f v else .error .testUtilExpect := by
  unfold tuConv; split <;> rfl

/-- nested range checks that fail the same way are one check -/
theorem if_if_error {β : Type} (p q : Prop) [Decidable p] [Decidable q] (a e : β) :
    (if p then (if q then a else e) else e) = if p ∧ q then a else e := by
  by_cases hp : p <;> by_cases hq : q <;> simp [hp, hq]

end Midi
