/-
The validating `TryFrom<Unchecked..>` impls behind `#[serde(try_from = ..)]` of ControlChange14BitMessage and
ParameterNumberMessage as TRANSLATED (Midi.Gen.CCMsg / PNMsgFile): the hand-written serde model (Midi.Model.Serde) is
field-wise deserialization followed by exactly these functions.
-/
import Midi.Gen.CCMsg
import Midi.Gen.PNMsgFile
import Midi.Proofs.GenMsg
import Midi.Model.Serde
import Midi.Proofs.Ctors
namespace Midi.GenTie
open Midi Midi.Gen

namespace SER
/-- the validating `TryFrom<UncheckedControlChange14BitMessage>`: never panics; accepts exactly MSB controller numbers
    below 32 and then keeps the three fields -/
theorem cc14_try_from (c n v : Nat) :
    CCMsg.ControlChange14BitMessage.try_from ⟨c, n, v⟩ = .ok (if n < 32 then some ⟨c, n, v⟩ else none) := by
  unfold CCMsg.ControlChange14BitMessage.try_from
  rw [cnLsbOf_eq, ok_bind]
  by_cases h : n < 32 <;> simp [h]

/-- field-wise deserialization (each field through the restricted integer's own deserializer) followed by the
    TRANSLATED validation -/
def deCC14T (ch msb value : Int) : Option CC14Msg :=
  match deNewtype 15 ch, deNewtype 127 msb, deNewtype 16383 value with
  | some c, some n, some v =>
    (match CCMsg.ControlChange14BitMessage.try_from ⟨c, n, v⟩ with
     | .ok (some m) => some (CCM.msg m)
     | _ => none)
  | _, _, _ => none

/-- the hand-written serde model of a 14-bit CC message is exactly that -/
theorem deCC14_eq (ch msb value : Int) : deCC14 ch msb value = deCC14T ch msb value := by
  unfold deCC14 deCC14T
  rcases deNewtype 15 ch with _ | c; · rfl
  rcases deNewtype 127 msb with _ | n; · rfl
  rcases deNewtype 16383 value with _ | v; · rfl
  simp only [cc14_try_from]
  by_cases h : n < 32 <;> simp [h, CCM.msg]

theorem pn_try_from (c n v : Nat) (r b : Bool) (d : PNMsgFile.DataType_) :
    PNMsgFile.ParameterNumberMessage.try_from ⟨c, n, v, r, b, d⟩ =
      .ok (if (if b then d = .DataEntry else v ≤ 127) then some ⟨c, n, v, r, b, d⟩ else none) := by
  unfold PNMsgFile.ParameterNumberMessage.try_from
  cases b
  · by_cases h : v ≤ 127 <;> simp [h]
  · cases d <;> rfl

def gdt? (x : Int) : Option PNMsgFile.DataType_ := (deDataType x).map PNM.gdt

def dePNT (ch number value reg is14 dt : Int) : Option PNMsg :=
  match deNewtype 15 ch, deNewtype 16383 number, deNewtype 16383 value, deBool reg, deBool is14, gdt? dt with
  | some c, some n, some v, some r, some b, some d =>
    (match PNMsgFile.ParameterNumberMessage.try_from ⟨c, n, v, r, b, d⟩ with
     | .ok (some m) => some (PNM.msg m)
     | _ => none)
  | _, _, _, _, _, _ => none

theorem dePN_eq (ch number value reg is14 dt : Int) : dePN ch number value reg is14 dt = dePNT ch number value reg is14 dt := by
  unfold dePN dePNT gdt?
  -- a field that does not deserialize: `none` on both sides
  rcases deNewtype 15 ch with _ | c; · rfl
  rcases deNewtype 16383 number with _ | n; · rfl
  rcases deNewtype 16383 value with _ | v; · rfl
  rcases deBool reg with _ | r; · rfl
  rcases deBool is14 with _ | b; · rfl
  rcases deDataType dt with _ | d; · rfl
  simp only [Option.map, pn_try_from]
  cases b
  · by_cases h : v ≤ 127 <;> simp [h, PNM.msg]
  · cases d <;> rfl
end SER
end Midi.GenTie
