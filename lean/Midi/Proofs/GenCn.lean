/-
The inherent methods of ControllerNumber (controller_number_mod.rs) as TRANSLATED (Midi.Gen.CnPredicates) are the
hand-written predicates of Midi.Model.Types.
-/
import Midi.Gen.CnPredicates
import Midi.Proofs.GenTie
namespace Midi.GenTie
open Midi Midi.Gen
namespace CN
open Midi.Gen.CnPredicates

theorem can_be_part (n : Nat) : ControllerNumber.can_be_part_of_14_bit_control_change_message n = .ok (cnCanBePartOf14 n) := rfl

theorem lsb_of (n : Nat) : ControllerNumber.corresponding_14_bit_lsb_controller_number n = cnLsbOf n := by
  unfold ControllerNumber.corresponding_14_bit_lsb_controller_number cnLsbOf
  by_cases h : n ≥ 32 <;> by_cases h2 : n + 32 < 256 <;> simp [h, h2] <;> omega

theorem is_parameter_number (n : Nat) :
    ControllerNumber.is_parameter_number_message_controller_number n = .ok (cnIsParameterNumber n) := rfl

theorem is_channel_mode (n : Nat) :
    ControllerNumber.is_channel_mode_message_controller_number n = .ok (cnIsChannelMode n) := rfl

end CN
end Midi.GenTie
