/-
test_util.rs as TRANSLATED (Midi.Gen.TestUtil): every shorthand is the hand-written one of Midi.Model.TestUtil.
-/
import Midi.Gen.TestUtil
import Midi.Model.TestUtil
import Midi.Proofs.GenTie
namespace Midi.GenTie
open Midi Midi.Gen

namespace TU
theorem conv (max v : Nat) :
    (match (if v ≤ max then some v else none : Option Nat) with
      | some t => (.ok t : Res Nat)
      | none => .error .testUtilExpect) = tuConv max v := by
  unfold tuConv; by_cases h : v ≤ max <;> simp [h]

theorem u4 (v : Nat) : TestUtil.u4 v = tuU4 v := conv 15 v
theorem u7 (v : Nat) : TestUtil.u7 v = tuU7 v := conv 127 v
theorem u14 (v : Nat) : TestUtil.u14 v = tuU14 v := conv 16383 v
theorem channel (v : Nat) : TestUtil.channel v = tuChannel v := conv 15 v
theorem key_number (v : Nat) : TestUtil.key_number v = tuKeyNumber v := conv 127 v
theorem controller_number (v : Nat) : TestUtil.controller_number v = tuControllerNumber v := conv 127 v

theorem short (s a b : Nat) : TestUtil.short s a b = tuShort s a b := by
  unfold TestUtil.short tuShort
  simp only [u7]
  exact bind_congr fun _ => bind_congr fun _ => bind_congr fun o => by cases o <;> rfl

theorem three (x y z : Nat) :
    TestUtil.note_on x y z = tuNoteOn x y z ∧ TestUtil.note_off x y z = tuNoteOff x y z ∧
    TestUtil.control_change x y z = tuControlChange x y z ∧
    TestUtil.polyphonic_key_pressure x y z = tuPolyphonicKeyPressure x y z := by
  refine ⟨?_, ?_, ?_, ?_⟩ <;>
    simp only [TestUtil.note_on, TestUtil.note_off, TestUtil.control_change, TestUtil.polyphonic_key_pressure,
      tuNoteOn, tuNoteOff, tuControlChange, tuPolyphonicKeyPressure, channel, key_number, controller_number, u7, bind_ok]

theorem two (x y : Nat) :
    TestUtil.program_change x y = tuProgramChange x y ∧ TestUtil.channel_pressure x y = tuChannelPressure x y ∧
    TestUtil.pitch_bend_change x y = tuPitchBendChange x y := by
  refine ⟨?_, ?_, ?_⟩ <;>
    simp only [TestUtil.program_change, TestUtil.channel_pressure, TestUtil.pitch_bend_change,
      tuProgramChange, tuChannelPressure, tuPitchBendChange, channel, u7, u14, bind_ok]

theorem one (x : Nat) :
    TestUtil.song_position_pointer x = tuSongPositionPointer x ∧ TestUtil.song_select x = tuSongSelect x := by
  refine ⟨?_, ?_⟩ <;>
    simp only [TestUtil.song_position_pointer, TestUtil.song_select, tuSongPositionPointer, tuSongSelect, u7, u14, bind_ok]

theorem plain (f : QFrame) :
    TestUtil.system_exclusive_start = mkSystemExclusiveStart rawFactory ∧
    TestUtil.time_code_quarter_frame f = mkTimeCodeQuarterFrame rawFactory f ∧
    TestUtil.tune_request = mkPlain rawFactory .tuneRequest ∧ TestUtil.system_exclusive_end = mkPlain rawFactory .systemExclusiveEnd ∧
    TestUtil.timing_clock = mkPlain rawFactory .timingClock ∧ TestUtil.start = mkPlain rawFactory .start ∧
    TestUtil.continue_ = mkPlain rawFactory .continue ∧ TestUtil.stop = mkPlain rawFactory .stop ∧
    TestUtil.active_sensing = mkPlain rawFactory .activeSensing ∧ TestUtil.system_reset = mkPlain rawFactory .systemReset :=
  ⟨bind_ok _, bind_ok _, bind_ok _, bind_ok _, bind_ok _, bind_ok _, bind_ok _, bind_ok _, bind_ok _, bind_ok _⟩

theorem cc14 (x y z : Nat) : TestUtil.control_change_14_bit x y z = tuControlChange14Bit x y z := by
  simp only [TestUtil.control_change_14_bit, tuControlChange14Bit, channel, controller_number, u14, bind_ok]

theorem pn (x y z : Nat) :
    TestUtil.nrpn x y z = tuPn false false x y z ∧ TestUtil.nrpn_14_bit x y z = tuPn false true x y z ∧
    TestUtil.rpn x y z = tuPn true false x y z ∧ TestUtil.rpn_14_bit x y z = tuPn true true x y z := by
  refine ⟨?_, ?_, ?_, ?_⟩ <;>
    simp only [TestUtil.nrpn, TestUtil.nrpn_14_bit, TestUtil.rpn, TestUtil.rpn_14_bit, tuPn, channel, u14, u7,
      Bool.false_eq_true, if_false, if_true] <;>
    rfl

end TU
end Midi.GenTie
