/-
What the deserializers of the serde model (Midi/Model/Serde.lean) accept, each as one equivalence: the field
deserializers first, then the messages built from them.
-/
import Midi.Model.Serde
import Midi.Proofs.Short
namespace Midi

theorem deU8_eq_some {x : Int} {v : Nat} : deU8 x = some v ↔ (v : Int) = x ∧ v ≤ 255 := by
  unfold deU8; split
  · rw [Option.some.injEq]; omega
  · simp only [reduceCtorEq, false_iff]; omega

theorem deU8_natCast {v : Nat} (h : v ≤ 255) : deU8 v = some v := deU8_eq_some.mpr ⟨rfl, h⟩

/-- the `u16` visitor, then `is_valid` -/
theorem deNewtype_eq_some {max : Nat} {x : Int} {v : Nat} :
    deNewtype max x = some v ↔ (v : Int) = x ∧ v ≤ max ∧ v ≤ 65535 := by
  unfold deNewtype deU16
  by_cases hx : 0 ≤ x ∧ x ≤ 65535
  · simp only [if_pos hx]; split
    · rw [Option.some.injEq]; omega
    · simp only [reduceCtorEq, false_iff]; omega
  · simp only [if_neg hx, reduceCtorEq, false_iff]; omega

theorem deNewtype_natCast {max v : Nat} (h : v ≤ max) (hm : max ≤ 65535) : deNewtype max v = some v :=
  deNewtype_eq_some.mpr ⟨rfl, h, by omega⟩

theorem deNewtype_val {max : Nat} {x : Int} {v : Nat} (h : deNewtype max x = some v) : (v : Int) = x :=
  (deNewtype_eq_some.mp h).1

-- `v < max + 1`: for a literal `max` this is `v < 16`, `v < 128`, `v < 16384` up to reduction, as `Valid` states it
theorem deNewtype_lt {max : Nat} {x : Int} {v : Nat} (h : deNewtype max x = some v) : v < max + 1 :=
  Nat.lt_succ_of_le (deNewtype_eq_some.mp h).2.1

theorem deBool_eq_some {x : Int} {b : Bool} : deBool x = some b ↔ x = if b then 1 else 0 := by
  refine ⟨fun h => ?_, by rintro rfl; cases b <;> rfl⟩
  -- in each branch of the chain of `if`s, `h` names the value and the condition of the branch is the claim
  unfold deBool at h
  (repeat' split at h) <;> cases h <;> assumption

theorem deBool_ite (b : Bool) : deBool (if b then 1 else 0) = some b := deBool_eq_some.mpr rfl

theorem deDataType_eq_some {x : Int} {d : DataType} : deDataType x = some d ↔ x = d.code := by
  refine ⟨fun h => ?_, by rintro rfl; cases d <;> rfl⟩
  unfold deDataType at h
  (repeat' split at h) <;> cases h <;> assumption

theorem deDataType_code (d : DataType) : deDataType d.code = some d := deDataType_eq_some.mpr rfl

/-! ### a `match` on several fields that yields a value only when every field is present -/

theorem match3_eq_some {δ} {a b c : Option Nat} {G : Nat → Nat → Nat → Option δ} {m : δ}
    (h : (match a, b, c with | some x, some y, some z => G x y z | _, _, _ => none) = some m) :
    ∃ x y z, a = some x ∧ b = some y ∧ c = some z ∧ G x y z = some m := by
  split at h
  · exact ⟨_, _, _, rfl, rfl, rfl, h⟩
  · cases h

theorem match2_eq_some {δ} {a b : Option Nat} {G : Nat → Nat → Option δ} {m : δ}
    (h : (match a, b with | some x, some y => G x y | _, _ => none) = some m) :
    ∃ x y, a = some x ∧ b = some y ∧ G x y = some m := by
  split at h
  · exact ⟨_, _, rfl, rfl, h⟩
  · cases h

/-! ### messages: deserialization succeeds with `m` exactly from the fields of a valid `m` -/

theorem deRaw_eq_some {s d1 d2 : Int} {m : Bytes} :
    deRaw s d1 d2 = some m ↔ m.Valid ∧ (m.status : Int) = s ∧ (m.d1 : Int) = d1 ∧ (m.d2 : Int) = d2 := by
  unfold deRaw
  constructor
  · intro h
    obtain ⟨sv, a, b, hs, ha, hb, h⟩ := match3_eq_some h
    rw [deU8_eq_some] at hs
    have hin : (⟨sv, a, b⟩ : Bytes).InRange := ⟨Nat.lt_succ_of_le hs.2, deNewtype_lt ha, deNewtype_lt hb⟩
    rw [raw_fromBytes _ hin] at h
    by_cases h128 : 128 ≤ sv
    · simp only [h128, ↓reduceIte, Option.some.injEq] at h
      subst h
      exact ⟨⟨h128, hin⟩, hs.1, deNewtype_val ha, deNewtype_val hb⟩
    · simp only [h128, ↓reduceIte] at h
      cases h
  · rintro ⟨⟨h1, h2, h3, h4⟩, rfl, rfl, rfl⟩
    rw [deU8_natCast (by omega), deNewtype_natCast (by omega) (by omega), deNewtype_natCast (by omega) (by omega)]
    simp only [raw_fromBytes m ⟨h2, h3, h4⟩, if_pos h1]

theorem deCC14_eq_some {ch msb value : Int} {m : CC14Msg} :
    deCC14 ch msb value = some m ↔
      m.Valid ∧ (m.channel : Int) = ch ∧ (m.msb : Int) = msb ∧ (m.value : Int) = value := by
  unfold deCC14
  constructor
  · intro h
    obtain ⟨c, n, v, hc, hn, hv, h⟩ := match3_eq_some h
    split at h
    · cases h
      exact ⟨⟨deNewtype_lt hc, ‹n < 32›, deNewtype_lt hv⟩, deNewtype_val hc, deNewtype_val hn, deNewtype_val hv⟩
    · cases h
  · rintro ⟨⟨h1, h2, h3⟩, rfl, rfl, rfl⟩
    rw [deNewtype_natCast (by omega) (by omega), deNewtype_natCast (by omega) (by omega),
      deNewtype_natCast (by omega) (by omega)]
    simp only [if_pos h2]

/-- the third clause of `PNMsg.Valid`, as the range of the value's type and the test the validation makes -/
theorem pn_value_ok (b : Bool) (v : Nat) (d : DataType) :
    (if b then v < 16384 ∧ d = .dataEntry else v < 128) ↔
      v < 16383 + 1 ∧ (if b then d = .dataEntry else v ≤ 127) := by
  cases b <;> simp <;> omega

theorem dePN_eq_some {ch number value reg is14 dt : Int} {m : PNMsg} :
    dePN ch number value reg is14 dt = some m ↔
      m.Valid ∧ (m.channel : Int) = ch ∧ (m.number : Int) = number ∧ (m.value : Int) = value ∧
        reg = (if m.isRegistered then 1 else 0) ∧ is14 = (if m.is14Bit then 1 else 0) ∧ dt = m.dataType.code := by
  unfold dePN
  constructor
  · intro h
    split at h
    · next c n v r b d hc hn hv hr hb hd =>
      by_cases hok : if b then d = .dataEntry else v ≤ 127
      · simp only [if_pos hok, Option.some.injEq] at h
        subst h
        exact ⟨⟨deNewtype_lt hc, deNewtype_lt hn, (pn_value_ok b v d).mpr ⟨deNewtype_lt hv, hok⟩⟩,
          deNewtype_val hc, deNewtype_val hn, deNewtype_val hv,
          deBool_eq_some.mp hr, deBool_eq_some.mp hb, deDataType_eq_some.mp hd⟩
      · simp only [if_neg hok] at h
        cases h
    · cases h
  · rintro ⟨⟨h1, h2, h3⟩, rfl, rfl, rfl, rfl, rfl, rfl⟩
    obtain ⟨hv, hok⟩ := (pn_value_ok _ _ _).mp h3
    rw [deNewtype_natCast (by omega) (by omega), deNewtype_natCast (by omega) (by omega),
      deNewtype_natCast (by omega) (by omega), deBool_ite, deBool_ite, deDataType_code]
    simp only [if_pos hok]

/-! ### enums: the type by its discriminant; frames and structured messages from range-checked parts, hence `Valid` -/

theorem deMsgType_eq_some {x : Int} {t : MsgType} : deMsgType x = some t ↔ (t.toU8 : Int) = x := by
  unfold deMsgType
  constructor
  · intro h
    split at h
    · next n hn => rw [MsgType.toU8_of_ofU8 h, (deU8_eq_some.mp hn).1]
    · cases h
  · rintro rfl
    rw [deU8_natCast (by have := t.toU8_range; omega)]
    exact t.ofU8_toU8

theorem forall_some_ite {α} {P : α → Prop} {c : Prop} [Decidable c] {a b : Option α}
    (ha : ∀ x, a = some x → P x) (hb : ∀ x, b = some x → P x) : ∀ x, (if c then a else b) = some x → P x := by
  split <;> assumption

theorem deQFrame_valid (p a b : Int) : ∀ f, deQFrame p a b = some f → f.Valid := by
  unfold deQFrame
  apply forall_some_ite
  · intro f h
    split at h
    · cases h; trivial
    · cases h
  · cases hv : deNewtype 15 a with
    | none => rintro f ⟨⟩
    | some v =>
      have hv : v < 16 := deNewtype_lt hv
      repeat' apply forall_some_ite
      iterate 7
        rintro f ⟨⟩; exact hv
      rintro f ⟨⟩

theorem deStructured_valid (variant f1 f2 f3 : Int) : ∀ m, deStructured variant f1 f2 f3 = some m → m.Valid := by
  unfold deStructured
  -- one goal per variant in the order of declaration, and one for an unknown variant
  repeat' apply forall_some_ite
  -- 0-3: channel and two 7-bit fields
  iterate 4
    intro m h
    obtain ⟨c, k, v, hc, hk, hv, ⟨⟩⟩ := match3_eq_some h
    exact ⟨deNewtype_lt hc, deNewtype_lt hk, deNewtype_lt hv⟩
  -- 4-6: channel and one field
  iterate 3
    intro m h
    obtain ⟨c, p, hc, hp, ⟨⟩⟩ := match2_eq_some h
    exact ⟨deNewtype_lt hc, deNewtype_lt hp⟩
  · rintro m ⟨⟩; trivial
  · intro m h
    obtain ⟨f, hf, rfl⟩ := Option.map_eq_some_iff.mp h
    exact deQFrame_valid _ _ _ f hf
  -- 9, 10: one field
  iterate 2
    intro m h
    obtain ⟨p, hp, rfl⟩ := Option.map_eq_some_iff.mp h
    exact deNewtype_lt hp
  -- 11-22: no field
  iterate 12
    rintro m ⟨⟩; trivial
  · rintro m ⟨⟩

end Midi
