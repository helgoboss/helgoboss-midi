/-
The short-message model against the MIDI table of `Midi/Spec/MidiTable.lean`.

The model decides everything by a `match` on the message type, the table by arithmetic on the status byte.  Three
finite facts, checked by evaluation over all status bytes, connect the two: `extractType_spec` (the decoder's type is
the table's), `status_table` (each arithmetic condition of the table as a condition on the type) and
`toU8_specType` (the type's discriminant is the table's type byte).  After that a statement about all valid bytes
is proved by cases on `specType b.status` taken as a variable, where both sides compute.

Decoding and encoding of `StructuredShortMessage` form a retraction: `specStructured_bytesOf` (decode after encode
is the identity) and `bytesOf_specStructured` (encode after decode is `canon`).
-/
import Midi.Model.Short
import Midi.Spec.MidiTable
import Midi.Proofs.Bits
namespace Midi
open Midi.Spec

/-- the bytes of an implementor's value as seen through its three getters -/
def bytesOf {α} (I : Impl α) (x : α) : Bytes := ⟨I.status x, I.d1 x, I.d2 x⟩

theorem bytesOf_valid_iff {α} {I : Impl α} {x : α} :
    (bytesOf I x).Valid ↔ 128 ≤ I.status x ∧ I.status x < 256 ∧ I.d1 x < 128 ∧ I.d2 x < 128 := Iff.rfl

/-- a statement about all numbers below `n` can be checked on `Fin n`, where `decide` finds the instance: the form in
    which the finite facts of this file are proved by evaluation -/
theorem forall_lt_of_fin {n : Nat} {P : Nat → Prop} (h : ∀ s : Fin n, P s.val) : ∀ s, s < n → P s :=
  fun s hs => h ⟨s, hs⟩

/-- `extract_type_from_status_byte` succeeds exactly from 0x80 up and then follows the MIDI table -/
theorem extractType_spec : ∀ s, s < 256 →
    extractType s = .ok (if 128 ≤ s then some (specType s) else none) := forall_lt_of_fin (by decide +kernel)

theorem extractType_valid (s : Nat) (h1 : 128 ≤ s) (h : s < 256) :
    extractType s = .ok (some (specType s)) := by rw [extractType_spec s h, if_pos h1]

theorem extractType_invalid (s : Nat) (h1 : s < 128) : extractType s = .ok none := by
  rw [extractType_spec s (by omega), if_neg (by omega)]

/-- `from_bytes` accepts exactly the status bytes from 0x80 up and is then `from_bytes_unchecked`: for every factory -/
theorem fromBytes_eq {α} (F : Factory α) (b : Bytes) (h : b.InRange) :
    fromBytes F b = if 128 ≤ b.status then (F.ofBytesUnchecked b).map some else .ok none := by
  unfold fromBytes
  by_cases h1 : 128 ≤ b.status
  · rw [if_pos h1, extractType_valid _ h1 h.1]
    cases F.ofBytesUnchecked b <;> rfl
  · rw [if_neg h1, extractType_invalid _ (by omega)]; rfl

theorem raw_fromBytes (b : Bytes) (h : b.InRange) :
    fromBytes rawFactory b = .ok (if 128 ≤ b.status then some b else none) := by
  rw [fromBytes_eq _ _ h]; split <;> rfl

theorem MsgType.ofU8_toU8 (t : MsgType) : MsgType.ofU8 t.toU8 = some t := by cases t <;> rfl

theorem MsgType.toU8_of_ofU8 {n : Nat} {t : MsgType} (h : MsgType.ofU8 n = some t) : t.toU8 = n := by
  simpa using List.find?_some h

theorem MsgType.toU8_range (t : MsgType) : 128 ≤ t.toU8 ∧ t.toU8 < 256 := by cases t <;> decide

/-- every arithmetic condition the table puts on a valid status byte, as a condition on its message type -/
theorem status_table : ∀ s, s < 256 → 128 ≤ s →
    (s / 16 = 8 ↔ specType s = .noteOff) ∧ (s / 16 = 9 ↔ specType s = .noteOn) ∧
    (s / 16 = 10 ↔ specType s = .polyphonicKeyPressure) ∧ (s / 16 = 11 ↔ specType s = .controlChange) ∧
    (s / 16 = 12 ↔ specType s = .programChange) ∧ (s / 16 = 13 ↔ specType s = .channelPressure) ∧
    (s / 16 = 14 ↔ specType s = .pitchBendChange) ∧
    (s = 240 ↔ specType s = .systemExclusiveStart) ∧ (s = 241 ↔ specType s = .timeCodeQuarterFrame) ∧
    (s = 242 ↔ specType s = .songPositionPointer) ∧ (s = 243 ↔ specType s = .songSelect) ∧
    -- the thresholds of `specDataLen`, `specSuper`, `specMain`, in a form that computes after `generalize; cases t`
    (s < 192 ↔ (specType s).toU8 < 192) ∧ (s < 224 ↔ (specType s).toU8 < 224) ∧
    (s < 240 ↔ (specType s).toU8 < 240) ∧ (s < 248 ↔ (specType s).toU8 < 248) :=
  forall_lt_of_fin (by decide +kernel)

theorem toU8_specType : ∀ s, s < 256 → 128 ≤ s → (specType s).toU8 = specTypeByte s :=
  forall_lt_of_fin (by decide +kernel)

theorem specType_toU8_add (t : MsgType) (c : Nat) (hc : c < 16) (h : t.toU8 < 240 ∨ c = 0) :
    specType (t.toU8 + c) = t := by
  revert c
  cases t <;> decide

theorem specType_toU8 (t : MsgType) : specType t.toU8 = t := specType_toU8_add t 0 (by decide) (.inr rfl)

/-- `ShortMessageType::try_from(u8)` succeeds exactly on the regenerated discriminants, with the table's type: the
    list holds every discriminant and nothing else -/
theorem ofU8_spec (n : Nat) :
    MsgType.ofU8 n = if n ∈ Gen.messageTypeValues then some (specType n) else none := by
  have listed : ∀ t : MsgType, t.toU8 ∈ Gen.messageTypeValues := by intro t; cases t <;> decide
  have total : ∀ n ∈ Gen.messageTypeValues, (MsgType.ofU8 n).isSome := by decide
  cases h : MsgType.ofU8 n with
  | some t =>
    obtain rfl := MsgType.toU8_of_ofU8 h
    rw [if_pos (listed t), specType_toU8]
  | none =>
    rw [if_neg]
    intro hm
    have := total n hm
    rw [h] at this
    cases this

theorem buildStatusByte_toU8 (t : MsgType) (c : Nat) (hc : c < 16) (ht : t.toU8 < 240) :
    buildStatusByte t.toU8 c = t.toU8 + c ∧ 128 ≤ t.toU8 + c ∧ t.toU8 + c < 256 ∧ (t.toU8 + c) % 16 = c := by
  have : (t.toU8 % 16 = 0 ∨ 240 ≤ t.toU8) ∧ 128 ≤ t.toU8 := by cases t <;> decide
  rw [buildStatusByte_eq _ _ (by omega) hc]
  omega

theorem ofU7_spec : ∀ d, d < 128 → QFrame.ofU7 d = .ok (specQFrame d) := forall_lt_of_fin (by decide +kernel)

theorem toU7_specQFrame : ∀ d, d < 128 → (specQFrame d).toU7 = if d / 16 = 7 then d - d / 8 % 2 * 8 else d :=
  forall_lt_of_fin (by decide +kernel)

theorem specQFrame_valid : ∀ d, d < 128 → (specQFrame d).Valid := forall_lt_of_fin (by decide +kernel)

theorem buildMtc_eq (k v : Nat) (hk : k < 8) (hv : v < 16) : buildMtc k v = 16 * k + v := by
  unfold buildMtc
  rw [shl_4, Nat.mod_eq_of_lt (by omega), or_eq_add_16 _ _ (by omega) hv]; omega

theorem specQFrame_toU7 (f : QFrame) (hf : f.Valid) : f.toU7 < 128 ∧ specQFrame f.toU7 = f := by
  cases f with
  | last b t => cases b <;> cases t <;> decide
  | _ v =>
    change v < 16 at hf
    simp (disch := first | exact hf | decide) only [QFrame.toU7, buildMtc_eq, specQFrame, Nat.mul_add_div,
      Nat.div_eq_of_lt, Nat.mul_add_mod, Nat.mod_eq_of_lt, Nat.add_zero, and_true]
    omega

/-- `StructuredShortMessage::from_bytes_unchecked` yields the structured form the MIDI table prescribes -/
theorem structured_ofBytes (b : Bytes) (hv : b.Valid) : SMsg.ofBytesUnchecked b = .ok (specStructured b) := by
  obtain ⟨h1, h2, h3, h4⟩ := hv
  unfold SMsg.ofBytesUnchecked specStructured
  rw [extractType_valid b.status h1 h2]
  generalize specType b.status = t
  cases t <;> simp only [bind, Except.bind, extractChannel_eq, build14_eq _ _ h4 h3, ofU7_spec _ h3]

theorem structured_ofBytes_invalid (b : Bytes) (h : b.status < 128) :
    SMsg.ofBytesUnchecked b = .error .structuredInvalidStatus := by
  unfold SMsg.ofBytesUnchecked
  simp [extractType_invalid b.status h, bind, Except.bind]

theorem canonD1_idem_le (s d : Nat) (h : d < 128) :
    canonD1 s (canonD1 s d) = canonD1 s d ∧ canonD1 s d ≤ d := by
  by_cases hs : s = 241
  · subst hs
    exact forall_lt_of_fin (P := fun d => canonD1 241 (canonD1 241 d) = canonD1 241 d ∧ canonD1 241 d ≤ d)
      (by decide +kernel) d h
  · unfold canonD1; by_cases c : specDataLen s ≥ 1 <;> simp [hs, c]

theorem statusByte_specStructured (b : Bytes) (hv : b.Valid) : (specStructured b).statusByte = b.status := by
  obtain ⟨h1, h2, -, -⟩ := hv
  have byType : (specStructured b).statusByte =
      if b.status < 240 then buildStatusByte (specType b.status).toU8 (b.status % 16) else (specType b.status).toU8 := by
    simp only [specStructured, status_table b.status h2 h1]
    generalize specType b.status = t
    cases t <;> rfl
  rw [byType, toU8_specType b.status h2 h1, specTypeByte]
  split
  · rw [buildStatusByte_eq _ _ (by omega) (by omega)]; omega
  · rfl

/-- encoding what was decoded gives the bytes with only the information-free parts zeroed -/
theorem bytesOf_specStructured (b : Bytes) (hv : b.Valid) : bytesOf structuredImpl (specStructured b) = canon b := by
  have hst := statusByte_specStructured b hv
  obtain ⟨s, d1, d2⟩ := b
  obtain ⟨h1, h2, h3, h4⟩ := hv
  simp only at h1 h2 h3 h4
  have low : (d2 * 128 + d1) % 128 = d1 := by omega
  have high : (d2 * 128 + d1) / 128 % 128 = d2 := by omega
  show (⟨SMsg.statusByte _, SMsg.dataByte1 _, SMsg.dataByte2 _⟩ : Bytes) = _
  rw [hst]
  simp only [canon, canonD1, canonD2, specDataLen, status_table s h2 h1, specStructured]
  generalize specType s = t
  cases t <;>
    simp only [SMsg.dataByte1, SMsg.dataByte2, extractLow7_eq, extractHigh7_eq, low, high, toU7_specQFrame d1 h3,
      reduceCtorEq, false_and, true_and, ↓reduceIte] <;> rfl

theorem specStructured_bytesOf (m : SMsg) (hm : m.Valid) :
    (bytesOf structuredImpl m).Valid ∧ specStructured (bytesOf structuredImpl m) = m := by
  cases m
  case systemExclusiveStart | tuneRequest | systemExclusiveEnd | timingClock | start | «continue» | stop
      | activeSensing | systemReset | systemCommonUndefined1 | systemCommonUndefined2 | systemRealTimeUndefined1
      | systemRealTimeUndefined2 => decide
  all_goals
    simp only [SMsg.Valid] at hm
    simp only [bytesOf, structuredImpl, SMsg.statusByte, SMsg.dataByte1, SMsg.dataByte2, Bytes.Valid, specStructured,
      specType_toU8]
  case timeCodeQuarterFrame f =>
    obtain ⟨h1, h2⟩ := specQFrame_toU7 f hm
    exact ⟨⟨by decide, by decide, h1, by decide⟩, congrArg SMsg.timeCodeQuarterFrame h2⟩
  case songPositionPointer p =>
    simp only [extractLow7_eq, extractHigh7_eq, SMsg.songPositionPointer.injEq]
    exact ⟨⟨by decide, by decide, by omega, by omega⟩, by omega⟩
  case songSelect n => exact ⟨⟨by decide, by decide, hm, by decide⟩, trivial⟩
  case noteOff c _ _ | noteOn c _ _ | polyphonicKeyPressure c _ _ | controlChange c _ _ | programChange c _
      | channelPressure c _ | pitchBendChange c _ =>
    -- as functions of the type, so that one `simp (disch := decide)` serves all seven channel types
    have hst := fun t ht => buildStatusByte_toU8 t c hm.1 ht
    have hty := fun t ht => specType_toU8_add t c hm.1 (.inl ht)
    simp (disch := decide) only [hst, hty, extractLow7_eq, extractHigh7_eq, true_and, and_true,
      SMsg.pitchBendChange.injEq]
    omega

theorem specStructured_valid (b : Bytes) (hv : b.Valid) : (specStructured b).Valid := by
  obtain ⟨-, -, h3, h4⟩ := hv
  have hc : b.status % 16 < 16 := Nat.mod_lt _ (by decide)
  have h14 : b.d2 * 128 + b.d1 < 16384 := by omega
  unfold specStructured
  generalize specType b.status = t
  cases t <;> simp only [SMsg.Valid, hc, h3, h4, h14, specQFrame_valid _ h3, and_self]

theorem specStructured_cc (b : Bytes) (h : b.status / 16 = 11) :
    specStructured b = .controlChange (b.status % 16) b.d1 b.d2 := by
  simp only [specStructured, specType, h]

theorem specStructured_not_cc (b : Bytes) (hv : b.Valid) (h : b.status / 16 ≠ 11) (c n v : Nat) :
    specStructured b ≠ .controlChange c n v := by
  intro he
  have hs := he ▸ statusByte_specStructured b hv
  have hc : c < 16 := (he ▸ specStructured_valid b hv : (SMsg.controlChange c n v).Valid).1
  simp only [SMsg.statusByte, MsgType.toU8, Gen.MT.ControlChange, buildStatusByte_eq 176 c (by decide) hc] at hs
  omega

/-- an implementor is lawful at `x`: `to_bytes` agrees with the getters and an overridden
    `to_structured` agrees with the default one -/
def Impl.LawfulAt {α} (I : Impl α) (x : α) : Prop :=
  I.toBytes x = bytesOf I x ∧
  ∀ f, I.toStructuredOverride = some f → SMsg.ofBytesUnchecked (I.toBytes x) = .ok (f x)

theorem rawImpl_lawful (b : Bytes) : rawImpl.LawfulAt b := ⟨rfl, nofun⟩

theorem structuredImpl_lawful (m : SMsg) (hm : m.Valid) : structuredImpl.LawfulAt m := by
  obtain ⟨hv, hs⟩ := specStructured_bytesOf m hm
  refine ⟨rfl, fun f hf => ?_⟩
  cases hf
  exact (structured_ofBytes _ hv).trans (congrArg _ hs)

/-- the structured form of a lawful implementor's value is that of the RawShortMessage with the same bytes -/
theorem toStructured_bytesOf {α} (I : Impl α) (x : α) (hl : I.LawfulAt x) :
    toStructured I x = toStructured rawImpl (bytesOf I x) := by
  unfold toStructured
  cases hov : I.toStructuredOverride with
  | none => simp only [rawImpl]; rw [hl.1]
  | some f => exact (hl.1 ▸ hl.2 f hov).symm

theorem msgType_spec {α} (I : Impl α) (x : α) (h1 : 128 ≤ I.status x) (h2 : I.status x < 256) :
    msgType I x = .ok (specType (I.status x)) := by
  unfold msgType
  simp [extractType_valid _ h1 h2, bind, Except.bind]

theorem superType_spec {α} (I : Impl α) (x : α) (hv : (bytesOf I x).Valid) :
    superType I x = .ok (specSuper (bytesOf I x)) := by
  obtain ⟨h1, h2, -, -⟩ := bytesOf_valid_iff.mp hv
  unfold superType
  simp only [msgType_spec I x h1 h2, specSuper, bytesOf, status_table _ h2 h1]
  generalize specType (I.status x) = t
  cases t
  case controlChange =>
    -- `cnIsChannelMode` compares with `Gen.channelModeThreshold`, the constant the source names: the table's 120
    by_cases hd : 120 ≤ I.d1 x <;> simp [cnIsChannelMode, hd, bind, Except.bind, MsgType.toU8]
  all_goals rfl

theorem specSuper_mainCategory (b : Bytes) : (specSuper b).mainCategory = specMain b.status := by
  unfold specSuper specMain
  (repeat' split) <;> rfl

theorem mainCategory_spec {α} (I : Impl α) (x : α) (hv : (bytesOf I x).Valid) :
    mainCategory I x = .ok (specMain (I.status x)) := by
  unfold mainCategory
  rw [superType_spec I x hv]
  exact congrArg Except.ok (specSuper_mainCategory _)

theorem channel_spec {α} (I : Impl α) (x : α) (hv : (bytesOf I x).Valid) :
    channel I x = .ok (specChannel (I.status x)) := by
  unfold channel
  rw [mainCategory_spec I x hv]
  unfold specMain specChannel
  split <;> simp only [bind, Except.bind, ne_eq, reduceCtorEq, not_true_eq_false, not_false_eq_true, if_true, if_false,
    extractChannel_eq]

theorem toStructured_spec {α} (I : Impl α) (x : α) (hl : I.LawfulAt x) (hv : (bytesOf I x).Valid) :
    toStructured I x = .ok (specStructured (bytesOf I x)) :=
  (toStructured_bytesOf I x hl).trans (structured_ofBytes _ hv)

end Midi
