/- The 14-bit CC scanner against its history specification (helper lemmas for C04S, C07, C08, C15, C16). -/
import Midi.Proofs.Route
import Midi.Proofs.Ctors
namespace Midi
open Midi.Spec

def chanOf : Option (Nat × Nat) → CCChan
  | none => {}
  | some (n, v) => { msbCn := some n, valueMsb := some v }

def Bounded14 (o : Option (Nat × Nat)) : Prop := ∀ n v, o = some (n, v) → n < 32 ∧ v < 128

/-- the scanner state is described by an abstraction `f` (per channel: the pending MSB Control Change); this is
    `Described chanOf Bounded14 s f` written out -/
def CCAbsRel (s : CCScanner) (f : Nat → Option (Nat × Nat)) : Prop :=
  ∀ c (h : c < 16), s[c] = chanOf (f c) ∧ ∀ n v, f c = some (n, v) → n < 32 ∧ v < 128

/-- the scanner state is exactly the history abstraction "last MSB Control Change per channel" -/
def CCRel (s : CCScanner) (past : List Op) : Prop := CCAbsRel s (lastMsb past)

theorem lastMsb_snoc (past : List Op) (op : Op) (c : Nat) :
    lastMsb (past ++ [op]) c = msbStep c (lastMsb past c) op := by
  simp [lastMsb, List.foldl_append]

theorem ccOn_iff (c : Nat) (b : Bytes) : ccOn c b = true ↔ b.status = 176 + c := by simp [ccOn]

theorem msbStep_other (c : Nat) (o : Option (Nat × Nat)) (b : Bytes) (h : b.status ≠ 176 + c) :
    msbStep c o (.feed b) = o := by
  simp [msbStep, ccOn, h]

theorem msbStep_cc (c : Nat) (o : Option (Nat × Nat)) (b : Bytes) (h : b.status = 176 + c) :
    msbStep c o (.feed b) = if b.d1 < 32 then some (b.d1, b.d2) else o := by
  simp [msbStep, ccOn, h]

theorem foldl_inv {α : Type} (P : α → Prop) (st : α → Op → α)
    (h : ∀ acc op, op.Valid → P acc → P (st acc op)) (past : List Op) (hp : ∀ op ∈ past, op.Valid) (acc : α)
    (ha : P acc) : P (past.foldl st acc) := by
  induction past generalizing acc with
  | nil => exact ha
  | cons op ops ih =>
    exact ih (fun o ho => hp o (List.mem_cons_of_mem _ ho)) _ (h acc op (hp op (List.mem_cons_self ..)) ha)

theorem msbStep_bounded (c : Nat) (o : Option (Nat × Nat)) (hb : Bounded14 o) (op : Op) (hv : op.Valid) :
    Bounded14 (msbStep c o op) := by
  cases op with
  | reset => exact nofun
  | feed b =>
    by_cases h : b.status = 176 + c
    · rw [msbStep_cc c o b h]
      split
      · next h32 => intro n v e; cases e; exact ⟨h32, hv.2.2.2⟩
      · exact hb
    · rw [msbStep_other c o b h]; exact hb

theorem lastMsb_bounded (c : Nat) (past : List Op) (hp : ∀ op ∈ past, op.Valid) : Bounded14 (lastMsb past c) :=
  foldl_inv Bounded14 (msbStep c) (fun o op hv hb => msbStep_bounded c o hb op hv) past hp none nofun

/-- `justified14` with the history abstraction made explicit -/
def just14 (o : Option (Nat × Nat)) (m : Bytes) : Option CC14Msg :=
  if 176 ≤ m.status ∧ m.status < 192 ∧ 32 ≤ m.d1 ∧ m.d1 < 64 then
    match o with
    | some (n, v) => if n = m.d1 - 32 then some ⟨m.status - 176, n, 128 * v + m.d2⟩ else none
    | none => none
  else none

theorem justified14_eq (past : List Op) (m : Bytes) : justified14 past m = just14 (lastMsb past (m.status - 176)) m := rfl

theorem justified14_cc (past : List Op) (c d1 d2 : Nat) :
    justified14 past ⟨176 + c, d1, d2⟩ = just14 (lastMsb past c) ⟨176 + c, d1, d2⟩ := by
  show just14 (lastMsb past (176 + c - 176)) _ = _
  rw [Nat.add_sub_cancel_left]

theorem just14_other (o : Option (Nat × Nat)) (b : Bytes)
    (h : ¬ (176 ≤ b.status ∧ b.status < 192 ∧ 32 ≤ b.d1 ∧ b.d1 < 64)) : just14 o b = none := if_neg h

theorem just14_not_cc (o : Option (Nat × Nat)) (b : Bytes) (h : ¬ (176 ≤ b.status ∧ b.status < 192)) :
    just14 o b = none := just14_other o b fun h' => h ⟨h'.1, h'.2.1⟩

theorem just14_some {o : Option (Nat × Nat)} {b : Bytes} {m : CC14Msg} (h : just14 o b = some m) :
    (176 ≤ b.status ∧ b.status < 192 ∧ 32 ≤ b.d1 ∧ b.d1 < 64) ∧
      ∃ v, o = some (b.d1 - 32, v) ∧ m = ⟨b.status - 176, b.d1 - 32, 128 * v + b.d2⟩ := by
  unfold just14 at h
  split at h
  · next hc =>
    refine ⟨hc, ?_⟩
    split at h
    · next n v =>
      split at h
      · next hn => subst hn; exact ⟨v, rfl, (Option.some.inj h).symm⟩
      · cases h
    · cases h
  · cases h

theorem just14_eq_none {o : Option (Nat × Nat)} {b : Bytes} (h : ∀ v, o ≠ some (b.d1 - 32, v)) : just14 o b = none := by
  cases hj : just14 o b with
  | none => rfl
  | some m => obtain ⟨-, v, hv, -⟩ := just14_some hj; exact absurd hv (h v)

theorem just14_lsb (c n v l : Nat) (hn : n < 32) (hc : c < 16) :
    just14 (some (n, v)) ⟨176 + c, n + 32, l⟩ = some ⟨c, n, 128 * v + l⟩ := by
  have e : 176 + c - 176 = c := by omega
  simp only [just14, e, Nat.add_sub_cancel, if_true]
  rw [if_pos (by omega)]

theorem ccChan_step (o : Option (Nat × Nat)) (hb : Bounded14 o) (b : Bytes) (hv : b.Valid)
    (hlo : 176 ≤ b.status) (hhi : b.status < 192) :
    (chanOf o).onCC (b.status - 176) b.d1 b.d2 =
      .ok (chanOf (msbStep (b.status - 176) o (.feed b)), just14 o b) ∧
    Bounded14 (msbStep (b.status - 176) o (.feed b)) := by
  refine ⟨?_, msbStep_bounded _ o hb (.feed b) hv⟩
  rw [msbStep_cc _ o b (by omega)]
  unfold CCChan.onCC just14
  by_cases h31 : b.d1 ≤ 31
  · have h32 : b.d1 < 32 := by omega
    have hj : ¬ (176 ≤ b.status ∧ b.status < 192 ∧ 32 ≤ b.d1 ∧ b.d1 < 64) := by omega
    rw [if_pos h31, if_pos h32, if_neg hj]
    rfl
  · have h32 : ¬ b.d1 < 32 := by omega
    rw [if_neg h31, if_neg h32]
    by_cases h63 : b.d1 ≤ 63
    · have hj : 176 ≤ b.status ∧ b.status < 192 ∧ 32 ≤ b.d1 ∧ b.d1 < 64 := by omega
      rw [if_pos h63, if_pos hj]
      cases o with
      | none => rfl
      | some p =>
        obtain ⟨m, vm⟩ := p
        obtain ⟨hm, hvm⟩ := hb m vm rfl
        simp only [CCChan.processValueLsb, chanOf, bind, Except.bind, cnLsbOf_eq, if_pos hm]
        by_cases heq : m = b.d1 - 32
        · have h1 : ¬ b.d1 ≠ m + 32 := by omega
          simp only [if_neg h1, if_pos heq, CC14Msg.new_eq, if_pos hm, build14_eq' _ _ hvm hv.2.2.2]
        · have h1 : b.d1 ≠ m + 32 := by omega
          rw [if_pos h1, if_neg heq]
    · have hj : ¬ (176 ≤ b.status ∧ b.status < 192 ∧ 32 ≤ b.d1 ∧ b.d1 < 64) := by omega
      rw [if_neg h63, if_neg hj]

/-- one feed from ANY state described by an abstraction `f`: the output is determined by `f` at the message's
    channel, and only that channel's abstraction moves -/
theorem cc_feed_abs (s : CCScanner) (f : Nat → Option (Nat × Nat)) (hr : CCAbsRel s f) (b : Bytes) (hv : b.Valid) :
    ∃ s', s.feed rawImpl b = .ok (s', just14 (f (b.status - 176)) b) ∧
      CCAbsRel s' (fun c => msbStep c (f c) (.feed b)) :=
  routeFeed_abs chanOf Bounded14 none CCChan.onCC msbStep just14 (fun o b hb hv => ccChan_step o hb b hv)
    msbStep_other just14_not_cc s f hr b hv

theorem ccRel_new : CCRel CCScanner.new [] := by
  intro c h
  simp [CCScanner.new, lastMsb, chanOf]

theorem ccRel_reset (s : CCScanner) (past : List Op) : CCRel s.reset (past ++ [.reset]) := by
  intro c h
  simp [CCScanner.reset, lastMsb_snoc, msbStep, chanOf]

theorem cc_step (s : CCScanner) (past : List Op) (hr : CCRel s past) (op : Op) (hv : op.Valid) :
    ∃ s', ccStep s op = .ok (s', expect14 past op) ∧
      CCRel s' (past ++ [op]) := by
  cases op with
  | feed b =>
    obtain ⟨s', h1, h2⟩ := cc_feed_abs s (lastMsb past) hr b hv
    exact ⟨s', h1, fun c hc => lastMsb_snoc past _ c ▸ h2 c hc⟩
  | reset => exact ⟨s.reset, rfl, ccRel_reset s past⟩

theorem expected14_eq (pre ops : List Op) :
    expected14 pre ops = traceOuts (fun p x => p ++ [x]) (fun p => expectOf none just14 (lastMsb p)) pre ops := by
  induction ops generalizing pre with
  | nil => rfl
  | cons op ops ih => rw [expected14, traceOuts, ih]; rfl

/-- any history: the run never panics, reports exactly the justified messages, and ends in the abstraction -/
theorem cc_run (s : CCScanner) (pre : List Op) (hr : CCRel s pre) (ops : List Op) (hv : ∀ op ∈ ops, op.Valid) :
    ∃ s', ccRun s ops = .ok (s', expected14 pre ops) ∧ CCRel s' (pre ++ ops) := by
  -- the abstract state of the simulation is the past itself, moved by appending the operation
  rw [ccRun_eq, expected14_eq, ← foldl_snoc pre ops]
  exact runM_sim ccStep CCRel _ _ Op.Valid cc_step s pre hr ops hv

/-! ### data independence (C08, C11): relabelling the value bytes commutes with a history fold step by step
(`foldl_relabel`), and with `just14` where the last MSB has been relabelled too -/

theorem foldl_relabel {α : Type} (g : α → α) (st : α → Op → α) (f : Nat → Nat)
    (h : ∀ acc op, st (g acc) (relabelOp f op) = g (st acc op)) (past : List Op) (acc : α) :
    (past.map (relabelOp f)).foldl st (g acc) = g (past.foldl st acc) := by
  induction past generalizing acc with
  | nil => rfl
  | cons op ops ih => simp only [List.map_cons, List.foldl_cons, h, ih]

theorem relabelB_status (f : Nat → Nat) (b : Bytes) : (relabelB f b).status = b.status := by
  unfold relabelB; split <;> rfl

theorem relabelB_cc (f : Nat → Nat) (b : Bytes) (h : 176 ≤ b.status ∧ b.status < 192) :
    relabelB f b = ⟨b.status, b.d1, f b.d2⟩ := if_pos h

theorem msbStep_relabel (f : Nat → Nat) (c : Nat) (hc : c < 16) (acc : Option (Nat × Nat)) (op : Op) :
    msbStep c (acc.map fun p => (p.1, f p.2)) (relabelOp f op) = (msbStep c acc op).map fun p => (p.1, f p.2) := by
  cases op with
  | reset => rfl
  | feed b =>
    by_cases h : b.status = 176 + c
    · rw [relabelOp, relabelB_cc f b (by omega), msbStep_cc c acc b h, msbStep_cc c _ ⟨b.status, b.d1, f b.d2⟩ h]
      split <;> rfl
    · rw [relabelOp, msbStep_other c acc b h, msbStep_other c _ _ (relabelB_status f b ▸ h)]

theorem lastMsb_relabel (f : Nat → Nat) (c : Nat) (hc : c < 16) (past : List Op) (acc : Option (Nat × Nat)) :
    (past.map (relabelOp f)).foldl (msbStep c) (acc.map fun p => (p.1, f p.2))
      = (past.foldl (msbStep c) acc).map fun p => (p.1, f p.2) :=
  foldl_relabel (Option.map fun p => (p.1, f p.2)) (msbStep c) f (msbStep_relabel f c hc) past acc

theorem lastMsb_lt (c : Nat) (past : List Op) (hp : ∀ op ∈ past, op.Valid) (acc : Option (Nat × Nat))
    (ha : ∀ p, acc = some p → p.2 < 128) : ∀ p, past.foldl (msbStep c) acc = some p → p.2 < 128 := by
  refine foldl_inv (fun acc => ∀ p, acc = some p → p.2 < 128) (msbStep c) ?_ past hp acc ha
  intro acc op hv ha p hpp
  cases op with
  | reset => cases hpp
  | feed b =>
    simp only [msbStep] at hpp
    split at hpp
    · cases hpp; exact hv.2.2.2
    · exact ha p hpp

theorem relabelB_valid (f : Nat → Nat) (hf : ∀ v, v < 128 → f v < 128) (b : Bytes) (hb : b.Valid) : (relabelB f b).Valid := by
  unfold relabelB; split
  · exact ⟨hb.1, hb.2.1, hb.2.2.1, hf _ hb.2.2.2⟩
  · exact hb

theorem relabel_valid (f : Nat → Nat) (hf : ∀ v, v < 128 → f v < 128) (past : List Op) (hp : ∀ op ∈ past, op.Valid) :
    ∀ op ∈ past.map (relabelOp f), op.Valid := by
  intro op ho
  obtain ⟨o, hin, rfl⟩ := List.mem_map.1 ho
  cases o with
  | reset => trivial
  | feed b => exact relabelB_valid f hf b (hp _ hin)

/-- `o'` has to be the relabelled `o` only where it is looked at: when the message is a Control Change -/
theorem just14_relabel (f : Nat → Nat) (o o' : Option (Nat × Nat)) (b : Bytes)
    (hv : b.Valid) (ho' : 176 ≤ b.status ∧ b.status < 192 → o' = o.map fun p => (p.1, f p.2)) :
    just14 o' (relabelB f b) =
      (just14 o b).map fun r => { r with value := 128 * f (r.value / 128) + f (r.value % 128) } := by
  by_cases h : 176 ≤ b.status ∧ b.status < 192
  · rw [ho' h, relabelB_cc f b h]
    unfold just14
    split
    · cases o with
      | none => rfl
      | some p =>
        have := hv.2.2.2
        have e1 : (128 * p.2 + b.d2) / 128 = p.2 := by omega
        have e2 : (128 * p.2 + b.d2) % 128 = b.d2 := by omega
        dsimp only [Option.map]
        split
        · simp only [e1, e2]
        · rfl
    · rfl
  · rw [relabelB, if_neg h, just14_not_cc _ b h, just14_not_cc _ b h]; rfl

theorem lastMsb_map_relabel (f : Nat → Nat) (c : Nat) (hc : c < 16) (past : List Op) :
    lastMsb (past.map (relabelOp f)) c = (lastMsb past c).map fun p => (p.1, f p.2) :=
  lastMsb_relabel f c hc past none

end Midi
