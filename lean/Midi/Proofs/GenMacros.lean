/-
The bodies of the five conversion macros and of `newtype!` (is_valid, from_str) as TRANSLATED from newtype_macros.rs
with the macro metavariables as parameters (Midi.Gen.Macros) are what the hand-written model computes for every row
of the conversion table.
-/
import Midi.Gen.Macros
import Midi.Proofs.Conv
namespace Midi.GenTie
open Midi Midi.Gen

namespace MAC
theorem is_valid (T : NewtypeDef) (x : Int) : Macros.newtype.is_valid T.max x = T.isValid x := by
  simp [Macros.newtype.is_valid, NewtypeDef.isValid]

/-- the conversion a table row denotes, computed by the TRANSLATED macro bodies -/
def translatedConv (pw : Nat) (e : ConvEntry) (x : Int) : Option Int :=
  match e.kind, e.src, e.dst with
  | .fromNN, .nt _, .nt j => (ntDef? j).bind (fun B => Macros.impl_from_newtype_to_newtype pw B x)
  | .fromNP, .nt _, .prim p => Macros.impl_from_newtype_to_primitive pw p x
  | .fromPN, .prim _, .nt j => (ntDef? j).bind (fun B => Macros.impl_from_primitive_to_newtype pw B x)
  | .tryNN, .nt _, .nt j => (ntDef? j).bind (fun B => Macros.impl_try_from_newtype_to_newtype pw B x)
  | .tryPN, .prim _, .nt j => (ntDef? j).bind (fun B => Macros.impl_try_from_primitive_to_newtype pw B x)
  | .tryPNvia q, .prim _, .nt j =>
      (ntDef? j).bind (fun B => Macros.impl_try_from_primitive_to_newtype pw B (q.cast pw x))
  | _, _, _ => none

/-- the two translated `if !is_valid(x) { Err } else { Ok(..) }` against the model's
    `if isValid x then some .. else none` -/
theorem try_nn (pw : Nat) (B : NewtypeDef) (x : Int) :
    Macros.impl_try_from_newtype_to_newtype pw B x = if B.isValid x then some (B.repr.cast pw x) else none := by
  cases h : B.isValid x <;> simp [Macros.impl_try_from_newtype_to_newtype, is_valid, h]

theorem try_pn (pw : Nat) (B : NewtypeDef) (x : Int) :
    Macros.impl_try_from_primitive_to_newtype pw B x = if B.isValid x then some (B.repr.cast pw x) else none := by
  cases h : B.isValid x <;> simp [Macros.impl_try_from_primitive_to_newtype, is_valid, h]

theorem conv_eq (pw : Nat) (e : ConvEntry) (x : Int) : convModel pw e x = translatedConv pw e x := by
  obtain ⟨kind, src, dst⟩ := e
  -- a shape without an arm gives `none` on both sides, and `impl_from_newtype_to_primitive` is the model's arm
  cases kind <;> cases src <;> cases dst <;> try rfl
  -- left: the five arms into a restricted type; the model's `map f` is the translation's `bind (some ∘ f)`
  all_goals
    simp only [convModel, translatedConv, Macros.impl_from_newtype_to_newtype,
      Macros.impl_from_primitive_to_newtype, try_nn, try_pn, Option.map_eq_bind, Function.comp_def]

theorem from_str (pw : Nat) (T : NewtypeDef) (s : List Char) :
    Macros.newtype.from_str pw T s = (parseNewtype pw T s).map (fun n => (n : Int)) := by
  unfold Macros.newtype.from_str parseNewtype
  cases parsePrim (T.repr.maxVal pw).toNat s with
  | none => rfl
  | some p =>
    simp only [is_valid]
    cases T.isValid p <;> rfl

end MAC
end Midi.GenTie
